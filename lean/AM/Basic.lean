/-! Shared basics: byte strings, hex, Go maps as association lists, a few list lemmas, strconv.Atoi -/
namespace AM

/-- byte strings; a byte `b` is the character with code `b` (0–255) -/
abbrev Str := List Char

def hexDigit (n : Nat) : Char :=
  if n < 10 then Char.ofNat (48 + n) else Char.ofNat (87 + n)

def hexVal (c : Char) : Option Nat :=
  let n := c.toNat
  if 48 ≤ n ∧ n ≤ 57 then some (n - 48)
  else if 97 ≤ n ∧ n ≤ 102 then some (n - 87)
  else if 65 ≤ n ∧ n ≤ 70 then some (n - 55)
  else none

/-- hex encoding used on the line protocol; the empty string is `-` -/
def toHex (s : Str) : String :=
  if s.isEmpty then "-" else
  String.ofList (s.flatMap fun c => [hexDigit (c.toNat / 16 % 16), hexDigit (c.toNat % 16)])

def ofHexAux : List Char → Option Str
  | [] => some []
  | a :: b :: r => do
      let x ← hexVal a
      let y ← hexVal b
      let t ← ofHexAux r
      pure (Char.ofNat (x * 16 + y) :: t)
  | _ => none

def ofHex (s : String) : Option Str :=
  if s == "-" then some [] else ofHexAux s.toList

/-! ### association lists with Go map semantics (unique keys, store overwrites) -/

def aLookup {κ α} [DecidableEq κ] (k : κ) : List (κ × α) → Option α
  | [] => none
  | (k', v) :: r => if k' = k then some v else aLookup k r

def aErase {κ α} [DecidableEq κ] (k : κ) : List (κ × α) → List (κ × α)
  | [] => []
  | (k', v) :: r => if k' = k then aErase k r else (k', v) :: aErase k r

def aStore {κ α} [DecidableEq κ] (k : κ) (v : α) (m : List (κ × α)) : List (κ × α) :=
  (k, v) :: aErase k m

theorem aLookup_eq_find? {κ α} [DecidableEq κ] (k : κ) (m : List (κ × α)) :
    aLookup k m = (m.find? fun x => x.1 = k).map (·.2) := by
  induction m with
  | nil => rfl
  | cons y r ih =>
    obtain ⟨k', v⟩ := y
    by_cases h : k' = k <;> simp [aLookup, h, ih]

theorem aErase_eq_filter {κ α} [DecidableEq κ] (k : κ) (m : List (κ × α)) :
    aErase k m = m.filter fun x => x.1 ≠ k := by
  induction m with
  | nil => rfl
  | cons y r ih =>
    obtain ⟨k', v⟩ := y
    by_cases h : k' = k <;> simp [aErase, h, ih]

theorem mem_aErase {κ α} [DecidableEq κ] {k : κ} {m : List (κ × α)} {x : κ × α} :
    x ∈ aErase k m → x ∈ m ∧ x.1 ≠ k := by
  simp [aErase_eq_filter]

theorem mem_aErase_of {κ α} [DecidableEq κ] {k : κ} {m : List (κ × α)} {x : κ × α} :
    x ∈ m → x.1 ≠ k → x ∈ aErase k m :=
  fun h1 h2 => by simp [aErase_eq_filter, h1, h2]

theorem mem_aStore {κ α} [DecidableEq κ] {k : κ} {v : α} {m : List (κ × α)} {x : κ × α} :
    x ∈ aStore k v m → x = (k, v) ∨ (x ∈ m ∧ x.1 ≠ k) := by
  intro h
  rcases List.mem_cons.mp h with rfl | h
  · exact Or.inl rfl
  · exact Or.inr (mem_aErase h)

theorem mem_aStore_self {κ α} [DecidableEq κ] {k : κ} {v : α} {m : List (κ × α)} : (k, v) ∈ aStore k v m :=
  List.mem_cons_self

theorem mem_aStore_of_ne {κ α} [DecidableEq κ] {k : κ} {v : α} {m : List (κ × α)} {x : κ × α}
    (h : x ∈ m) (hne : x.1 ≠ k) : x ∈ aStore k v m :=
  List.mem_cons_of_mem _ (mem_aErase_of h hne)

theorem aLookup_mem {κ α} [DecidableEq κ] {k : κ} {m : List (κ × α)} {v : α} :
    aLookup k m = some v → (k, v) ∈ m := by
  rw [aLookup_eq_find?]
  intro h
  obtain ⟨x, hx, rfl⟩ := Option.map_eq_some_iff.mp h
  have hk := List.find?_some hx
  simp only [decide_eq_true_eq] at hk
  exact hk ▸ List.mem_of_find?_eq_some hx

theorem aLookup_none {κ α} [DecidableEq κ] {k : κ} {m : List (κ × α)} :
    aLookup k m = none → ∀ x ∈ m, x.1 ≠ k := by
  simp [aLookup_eq_find?]

theorem aLookup_none_of {κ α} [DecidableEq κ] {k : κ} {m : List (κ × α)} (h : ∀ v, (k, v) ∉ m) :
    aLookup k m = none := by
  cases hl : aLookup k m with
  | none => rfl
  | some v => exact absurd (aLookup_mem hl) (h v)

def aUnique {κ α} (m : List (κ × α)) : Prop := (m.map (·.1)).Nodup

theorem aUnique_nil {κ α} : aUnique ([] : List (κ × α)) := List.nodup_nil

theorem aUnique_filter {κ α} {m : List (κ × α)} {p : κ × α → Bool} (h : aUnique m) :
    aUnique (m.filter p) :=
  List.Nodup.sublist (List.Sublist.map _ List.filter_sublist) h

theorem aUnique_erase {κ α} [DecidableEq κ] {k : κ} {m : List (κ × α)} (h : aUnique m) :
    aUnique (aErase k m) :=
  aErase_eq_filter k m ▸ aUnique_filter h

theorem aUnique_store {κ α} [DecidableEq κ] {k : κ} {v : α} {m : List (κ × α)} (h : aUnique m) :
    aUnique (aStore k v m) := by
  simp only [aStore, aUnique, List.map_cons, List.nodup_cons]
  refine ⟨?_, aUnique_erase h⟩
  intro hm
  obtain ⟨x, hx, hk⟩ := List.mem_map.mp hm
  exact (mem_aErase hx).2 hk

theorem aLookup_of_mem {κ α} [DecidableEq κ] {k : κ} {v : α} {m : List (κ × α)}
    (hu : aUnique m) (h : (k, v) ∈ m) : aLookup k m = some v := by
  induction m with
  | nil => cases h
  | cons y r ih =>
    obtain ⟨k', v'⟩ := y
    simp only [aUnique, List.map_cons, List.nodup_cons] at hu
    simp only [aLookup]
    rcases List.mem_cons.mp h with heq | h
    · cases heq; simp
    · split
      · rename_i hk; subst hk
        exact absurd (List.mem_map.mpr ⟨(k', v), h, rfl⟩) hu.1
      · exact ih hu.2 h

theorem aLookup_aStore_self {κ α} [DecidableEq κ] (k : κ) (v : α) (m : List (κ × α)) :
    aLookup k (aStore k v m) = some v := by simp [aStore, aLookup]

theorem aLookup_aErase_ne {κ α} [DecidableEq κ] (k k' : κ) (m : List (κ × α)) (h : k' ≠ k) :
    aLookup k (aErase k' m) = aLookup k m := by
  simp only [aLookup_eq_find?, aErase_eq_filter, List.find?_filter]
  congr 2
  funext x
  by_cases hx : x.1 = k <;> simp [hx, h.symm]

theorem aLookup_aStore_ne {κ α} [DecidableEq κ] (k k' : κ) (v : α) (m : List (κ × α)) (h : k' ≠ k) :
    aLookup k (aStore k' v m) = aLookup k m := by
  simp [aStore, aLookup, h, aLookup_aErase_ne k k' m h]

theorem aErase_of_aLookup_none {κ α} [DecidableEq κ] {k : κ} {m : List (κ × α)}
    (h : aLookup k m = none) : aErase k m = m := by
  rw [aErase_eq_filter, List.filter_eq_self]
  intro x hx
  simpa using aLookup_none h x hx

theorem aLookup_aErase_self {κ α} [DecidableEq κ] (k : κ) (m : List (κ × α)) :
    aLookup k (aErase k m) = none := by
  simp [aLookup_eq_find?, aErase_eq_filter, List.find?_filter]

theorem mem_unique {κ α} [DecidableEq κ] {k : κ} {v v' : α} {m : List (κ × α)}
    (hu : aUnique m) (h : (k, v) ∈ m) (h' : (k, v') ∈ m) : v = v' :=
  Option.some.inj ((aLookup_of_mem hu h).symm.trans (aLookup_of_mem hu h'))

theorem take_succ_of_getElem? {α} {l : List α} {n : Nat} {a : α} (h : l[n]? = some a) :
    l.take (n + 1) = l.take n ++ [a] := by
  rw [List.take_add_one, h]; rfl

theorem eq_of_filter_length_one {α} {p : α → Bool} {l : List α} (hc : (l.filter p).length = 1) {a b : α}
    (ha : a ∈ l) (hb : b ∈ l) (hpa : p a = true) (hpb : p b = true) : a = b := by
  obtain ⟨x, hx⟩ := List.length_eq_one_iff.mp hc
  have ma := List.mem_filter.mpr ⟨ha, hpa⟩
  have mb := List.mem_filter.mpr ⟨hb, hpb⟩
  rw [hx] at ma mb
  exact (List.mem_singleton.mp ma).trans (List.mem_singleton.mp mb).symm

/-- `I` is indexed by the inputs consumed so far; a prefix-closed hypothesis on them goes into `I` as a premise -/
theorem foldl_induction {σ ι : Type} {f : σ → ι → σ} {I : List ι → σ → Prop}
    (hstep : ∀ h s i, I h s → I (h ++ [i]) (f s i))
    (done : List ι) (s : σ) (l : List ι) (hi : I done s) : I (done ++ l) (l.foldl f s) := by
  induction l generalizing done s with
  | nil => simpa using hi
  | cons i l ih => simpa using ih (done ++ [i]) _ (hstep done s i hi)

theorem justified_append {α β : Type} {act : β → α} {G : List α → β → Prop}
    (hmono : ∀ pre more b, G pre b → G (pre ++ more) b) {out new : List α}
    (h : ∀ pre post b, out = pre ++ act b :: post → G pre b) (hn : ∀ b, act b ∈ new → G out b) :
    ∀ pre post b, out ++ new = pre ++ act b :: post → G pre b := by
  intro pre post b he
  rcases List.append_eq_append_iff.mp he with ⟨a, rfl, h2⟩ | ⟨a, rfl, h2⟩
  · exact hmono _ _ _ (hn b (h2 ▸ List.mem_append_right _ List.mem_cons_self))
  · cases a with
    | nil => simpa using hn b ((List.nil_append new ▸ h2) ▸ List.mem_cons_self)
    | cons x a =>
      obtain ⟨rfl, -⟩ := List.cons.inj h2
      exact h pre a b rfl

theorem set_self_of_getElem? {α : Type} {l : List α} {i : Nat} {a : α} (h : l[i]? = some a) : l.set i a = l := by
  obtain ⟨hi, rfl⟩ := List.getElem?_eq_some_iff.mp h
  exact List.set_getElem_self hi

theorem perm_flatten_set {α : Type} : ∀ (l : List (List α)) (i : Nat) (a : α) (td : List α),
    l[i]? = some (a :: td) → (a :: (l.set i td).flatten).Perm l.flatten
  | [], _, _, _, h => by simp at h
  | x :: l, 0, a, td, h => by simp at h; subst h; simp
  | x :: l, i+1, a, td, h => by
      simp at h
      have ih := perm_flatten_set l i a td h
      simp only [List.set_cons_succ, List.flatten_cons]
      exact (List.perm_middle.symm).trans (List.Perm.append_left x ih)

theorem lt_length_of_getElem? {α : Type} {l : List α} {i : Nat} {a : α} (h : l[i]? = some a) : i < l.length :=
  (List.getElem?_eq_some_iff.mp h).1

/-! ### strconv.Atoi on byte strings (sign, decimal digits; no overflow modelled below 2^63) -/

def digitsVal : Str → Option Nat
  | [] => some 0
  | s => s.foldl (fun acc c => acc.bind fun n =>
      if c.isDigit then some (n * 10 + (c.toNat - 48)) else none) (some 0)

/-- `strconv.Atoi`: optional sign, at least one digit, digits only; values beyond the int64
range are a range error (`none`). -/
def atoi (s : Str) : Option Int :=
  match s with
  | [] => none
  | '-' :: r => if r.isEmpty then none else
      (digitsVal r).bind fun n => if n ≤ 9223372036854775808 then some (-(n : Int)) else none
  | '+' :: r => if r.isEmpty then none else
      (digitsVal r).bind fun n => if n ≤ 9223372036854775807 then some (n : Int) else none
  | r => (digitsVal r).bind fun n => if n ≤ 9223372036854775807 then some (n : Int) else none

end AM
