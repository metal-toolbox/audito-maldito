import AM.Rx.Core
/-! Theory of the flat matcher: soundness and completeness against `Parse`; the forced greedy split (`Forced`,
`greedy_forced`); and the ways to show its side condition `NoLater` for a form: the class stops (`noLater_stop`), the
rest has no separator to spare (`noLater_count`), the next literal does not recur (`noLater_lit`, `noLater_tight`), or no
suffix of the rest parses at all (`NoSuf`, `noSuf_*`). -/
namespace AM.Rx

theorem tryDown_spec {α} (f : Nat → Option α) (lo hi : Nat) :
    (tryDown f lo hi = none ∧ ∀ k, lo ≤ k → k ≤ hi → f k = none) ∨
    ∃ k r, lo ≤ k ∧ k ≤ hi ∧ f k = some r ∧ tryDown f lo hi = some r ∧
      ∀ k', k < k' → k' ≤ hi → f k' = none := by
  induction hi with
  | zero =>
    simp only [tryDown]
    split
    · rename_i h
      subst h
      cases hf : f 0 with
      | none => exact .inl ⟨rfl, fun k _ hk => (Nat.le_zero.mp hk) ▸ hf⟩
      | some r => exact .inr ⟨0, r, by omega, by omega, hf, rfl, fun k' h1 h2 => by omega⟩
    · exact .inl ⟨rfl, fun k h1 h2 => by omega⟩
  | succ n ih =>
    simp only [tryDown]
    split
    · exact .inl ⟨rfl, fun k h1 h2 => by omega⟩
    · cases hf : f (n+1) with
      | some r => exact .inr ⟨n+1, r, by omega, by omega, hf, rfl, fun k' h1 h2 => by omega⟩
      | none =>
        rcases ih with ⟨h0, hall⟩ | ⟨k, r, h1, h2, h3, h4, h5⟩
        · exact .inl ⟨h0, fun k hk1 hk2 => if hk : k = n+1 then hk ▸ hf else hall k hk1 (by omega)⟩
        · exact .inr ⟨k, r, h1, by omega, h3, h4,
            fun k' a b => if hk : k' = n+1 then hk ▸ hf else h5 k' a (by omega)⟩

theorem tryDown_eq_none {α} {f : Nat → Option α} {lo hi : Nat} :
    tryDown f lo hi = none ↔ ∀ k, lo ≤ k → k ≤ hi → f k = none := by
  rcases tryDown_spec f lo hi with ⟨h0, hall⟩ | ⟨k, r, h1, h2, h3, h4, _⟩
  · exact ⟨fun _ => hall, fun _ => h0⟩
  · exact ⟨fun h => (by rw [h] at h4; cases h4), fun h => by rw [h k h1 h2] at h3; cases h3⟩

theorem tryDown_eq_some {α} {f : Nat → Option α} {lo hi : Nat} {r : α} :
    tryDown f lo hi = some r ↔
      ∃ k, lo ≤ k ∧ k ≤ hi ∧ f k = some r ∧ ∀ k', k < k' → k' ≤ hi → f k' = none := by
  rcases tryDown_spec f lo hi with ⟨h0, hall⟩ | ⟨k, r', h1, h2, h3, h4, h5⟩
  · exact ⟨fun h => (by rw [h0] at h; cases h), fun ⟨k, a, b, c, _⟩ => by rw [hall k a b] at c; cases c⟩
  · constructor
    · intro h
      rw [h4] at h
      cases h
      exact ⟨k, h1, h2, h3, h5⟩
    · rintro ⟨k0, _, b, c, d⟩
      -- the largest success is unique
      rcases Nat.lt_trichotomy k0 k with hlt | heq | hgt
      · rw [d k hlt h2] at h3; cases h3
      · rw [h4, ← h3, ← heq, c]
      · rw [h5 k0 hgt b] at c; cases c

inductive Parse : List Item → Bool → Str → List Str → Str → Prop
  | nilOpen (s) : Parse [] false s [] s
  | nilEnd : Parse [] true [] [] []
  | lit {l is e s caps r} : Parse is e s caps r → Parse (.lit l :: is) e (l ++ s) caps r
  | one {c is e b t caps r} : c.mem b = true →
      Parse is e ((b :: t).drop (runeWidth (b :: t))) caps r → Parse (.one c :: is) e (b :: t) caps r
  | rep {c mn cap is e s caps r} (x : Str) : (∀ ch ∈ x, c.mem ch = true) → mn ≤ x.length →
      Parse is e s caps r → Parse (.rep c mn cap :: is) e (x ++ s) (if cap then x :: caps else caps) r

theorem runLen_le (p : Char → Bool) (s : Str) : runLen p s ≤ s.length := by
  induction s with
  | nil => simp [runLen]
  | cons c cs ih => simp only [runLen]; split <;> simp <;> omega

theorem take_runLen_all (p : Char → Bool) (s : Str) (k : Nat) (hk : k ≤ runLen p s) :
    ∀ ch ∈ s.take k, p ch = true := by
  induction s generalizing k with
  | nil => simp
  | cons c cs ih =>
    cases k with
    | zero => simp
    | succ k =>
      simp only [runLen] at hk
      split at hk
      · rename_i hp
        intro ch hch
        simp only [List.take_succ_cons, List.mem_cons] at hch
        rcases hch with rfl | h
        · exact hp
        · exact ih k (by omega) ch h
      · omega

theorem runLen_append_ge {p : Char → Bool} {x s : Str} (hx : ∀ ch ∈ x, p ch = true) :
    x.length ≤ runLen p (x ++ s) := by
  induction x with
  | nil => simp
  | cons c cs ih =>
    have hc : p c = true := hx c (by simp)
    simp only [List.cons_append, runLen, hc, if_true, List.length_cons]
    have := ih (fun ch h => hx ch (by simp [h]))
    omega

theorem sound : ∀ (is : List Item) (e : Bool) (s : Str) (caps : List Str) (r : Str),
    matchItems is e s = some (caps, r) → Parse is e s caps r := by
  intro is
  induction is with
  | nil =>
    intro e s caps r h
    cases e <;> simp only [matchItems, Bool.false_eq_true, if_false, if_true] at h
    · cases h; exact Parse.nilOpen _
    · split at h
      · rename_i hs; cases h; subst hs; exact Parse.nilEnd
      · cases h
  | cons it is ih =>
    intro e s caps r h
    cases it with
    | lit l =>
      simp only [matchItems] at h
      split at h
      · rename_i hp
        obtain ⟨t, rfl⟩ := List.isPrefixOf_iff_prefix.mp hp
        rw [List.drop_left] at h
        exact Parse.lit (ih e _ caps r h)
      · cases h
    | one c =>
      simp only [matchItems] at h
      split at h
      · cases h
      · rename_i b t
        split at h
        · rename_i hc
          exact Parse.one hc (ih e _ caps r h)
        · cases h
    | rep c mn cap =>
      -- the success came from some length `k` within the run of class bytes: `s.take k` is the piece
      simp only [matchItems] at h
      obtain ⟨k, h1, h2, h3, _⟩ := tryDown_eq_some.mp h
      cases hm : matchItems is e (s.drop k) with
      | none => simp [hm] at h3
      | some res =>
        simp only [hm, Option.map_some, Option.some.injEq, Prod.mk.injEq] at h3
        obtain ⟨hc, hr⟩ := h3
        have hp := ih e _ res.1 res.2 (by rw [hm])
        have hlen : (s.take k).length = k := by
          have := runLen_le c.mem s
          simp; omega
        have := Parse.rep (c := c) (mn := mn) (cap := cap) (s.take k)
          (take_runLen_all _ _ _ h2) (by omega) hp
        rw [List.take_append_drop] at this
        rw [← hc, ← hr]; exact this

theorem lit_step (l : Str) (is : List Item) (e : Bool) (t : Str) :
    matchItems (.lit l :: is) e (l ++ t) = matchItems is e t := by
  simp only [matchItems]
  have : l.isPrefixOf (l ++ t) = true := List.isPrefixOf_iff_prefix.mpr (List.prefix_append _ _)
  simp [this]

theorem complete : ∀ (is : List Item) (e : Bool) (s : Str) (caps : List Str) (r : Str),
    Parse is e s caps r → (matchItems is e s).isSome = true := by
  intro is e s caps r h
  induction h with
  | nilOpen s => simp [matchItems]
  | nilEnd => simp [matchItems]
  | lit _ ih => rw [lit_step]; exact ih
  | @one c is e b t caps r hc _ ih =>
    simp only [matchItems, hc, if_true]
    exact ih
  | @rep c mn cap is e s caps r x hx hmn _ ih =>
    simp only [matchItems]
    rw [Option.isSome_iff_ne_none]
    intro ht
    have := tryDown_eq_none.mp ht x.length hmn (runLen_append_ge hx)
    simp at this
    simp [this] at ih

theorem none_of_no_parse (is : List Item) (e : Bool) (s : Str)
    (h : ∀ caps r, ¬ Parse is e s caps r) : matchItems is e s = none := by
  cases hm : matchItems is e s with
  | none => rfl
  | some res => exact absurd (sound is e s res.1 res.2 hm) (h _ _)

theorem one_step (c : Cls) (is : List Item) (e : Bool) (b : Char) (t : Str)
    (hb : b.toNat < 0xC2) (hc : c.mem b = true) :
    matchItems (.one c :: is) e (b :: t) = matchItems is e t := by
  simp only [matchItems, hc, if_true, runeWidth, hb, List.drop_succ_cons, List.drop_zero]

/-- no *longer* piece of class `c` leaves a parsable rest -/
def NoLater (c : Cls) (is : List Item) (e : Bool) (t : Str) : Prop :=
  ∀ j, 0 < j → j ≤ t.length → (∀ ch ∈ t.take j, c.mem ch = true) →
    ∀ caps r, ¬ Parse is e (t.drop j) caps r

/-- greedy step: the matcher takes piece `x` for the group if the rest matches after it and no
longer piece (staying inside the class) admits a parse of the rest -/
theorem rep_step (c : Cls) (mn : Nat) (cap : Bool) (is : List Item) (e : Bool) (x t : Str)
    (caps : List Str) (r : Str)
    (hx : ∀ ch ∈ x, c.mem ch = true) (hmn : mn ≤ x.length)
    (hrest : matchItems is e t = some (caps, r))
    (hmax : NoLater c is e t) :
    matchItems (.rep c mn cap :: is) e (x ++ t) = some (if cap then x :: caps else caps, r) := by
  simp only [matchItems]
  apply tryDown_eq_some.mpr
  refine ⟨x.length, hmn, runLen_append_ge hx, ?_, ?_⟩
  · simp [hrest]
  · intro k' hk hk'
    obtain ⟨j, rfl⟩ : ∃ j, k' = x.length + j := ⟨k' - x.length, by omega⟩
    have hle := runLen_le c.mem (x ++ t)
    rw [List.drop_length_add_append, none_of_no_parse]
    · rfl
    · refine hmax j (by omega) (by simp at hle; omega) fun ch hch => ?_
      apply take_runLen_all c.mem (x ++ t) _ hk'
      rw [List.take_length_add_append]
      exact List.mem_append_right _ hch

def build : List Item → List Str → Str
  | [], _ => []
  | .lit l :: is, ps => l ++ build is ps
  | .one _ :: is, x :: ps => x ++ build is ps
  | .one _ :: is, [] => build is []
  | .rep _ _ _ :: is, x :: ps => x ++ build is ps
  | .rep _ _ _ :: is, [] => build is []

def capsOf : List Item → List Str → List Str
  | [], _ => []
  | .lit _ :: is, ps => capsOf is ps
  | .one _ :: is, _ :: ps => capsOf is ps
  | .one _ :: is, [] => capsOf is []
  | .rep _ _ cap :: is, x :: ps => if cap then x :: capsOf is ps else capsOf is ps
  | .rep _ _ _ :: is, [] => capsOf is []

/-- the intended split is the one a greedy leftmost-first matcher is forced into -/
def Forced : List Item → Bool → List Str → Str → Prop
  | [], e, _, tr => e = true → tr = []
  | .lit _ :: is, e, ps, tr => Forced is e ps tr
  | .one c :: is, e, x :: ps, tr =>
      (∃ b, x = [b] ∧ b.toNat < 0xC2 ∧ c.mem b = true) ∧ Forced is e ps tr
  | .one _ :: _, _, [], _ => False
  | .rep c mn _ :: is, e, x :: ps, tr =>
      (∀ ch ∈ x, c.mem ch = true) ∧ mn ≤ x.length ∧ Forced is e ps tr ∧
        NoLater c is e (build is ps ++ tr)
  | .rep _ _ _ :: _, _, [], _ => False

/-! `Forced` item by item: a statement about a concrete expression is proved by applying these from
left to right, in the order of the expression. -/

theorem Forced.nil {e : Bool} {ps : List Str} {tr : Str} (h : e = true → tr = []) : Forced [] e ps tr := h

theorem Forced.lit {l : Str} {is : List Item} {e : Bool} {ps : List Str} {tr : Str}
    (hrest : Forced is e ps tr) : Forced (.lit l :: is) e ps tr := hrest

theorem Forced.one {c : Cls} {is : List Item} {e : Bool} {b : Char} {ps : List Str} {tr : Str}
    (hb : b.toNat < 0xC2) (hc : c.mem b = true) (hrest : Forced is e ps tr) :
    Forced (.one c :: is) e ([b] :: ps) tr := ⟨⟨b, rfl, hb, hc⟩, hrest⟩

/-- `hmax`: by one of the `noLater_*` lemmas below -/
theorem Forced.rep {c : Cls} {mn : Nat} {cap : Bool} {is : List Item} {e : Bool} {x : Str}
    {ps : List Str} {tr : Str} (hx : ∀ ch ∈ x, c.mem ch = true) (hmn : mn ≤ x.length)
    (hmax : NoLater c is e (build is ps ++ tr)) (hrest : Forced is e ps tr) :
    Forced (.rep c mn cap :: is) e (x :: ps) tr := ⟨hx, hmn, hrest, hmax⟩

theorem greedy_forced : ∀ (is : List Item) (e : Bool) (ps : List Str) (tr : Str),
    Forced is e ps tr →
      matchItems is e (build is ps ++ tr) = some (capsOf is ps, if e then [] else tr) := by
  -- item by item; for a repetition `rep_step`, whose maximality hypothesis is the `NoLater` conjunct
  intro is
  induction is with
  | nil =>
    intro e ps tr h
    cases e with
    | true => simp [Forced] at h; subst h; simp [matchItems, build, capsOf]
    | false => simp [matchItems, build, capsOf]
  | cons it is ih =>
    intro e ps tr h
    cases it with
    | lit l =>
      simp only [build, capsOf, List.append_assoc]
      rw [lit_step]; exact ih e ps tr h
    | one c =>
      cases ps with
      | nil => exact absurd h (by simp [Forced])
      | cons x ps =>
        obtain ⟨⟨b, rfl, hb, hc⟩, hf⟩ := h
        simp only [build, capsOf, List.cons_append, List.nil_append]
        rw [one_step c is e b _ hb hc]; exact ih e ps tr hf
    | rep c mn cap =>
      cases ps with
      | nil => exact absurd h (by simp [Forced])
      | cons x ps =>
        obtain ⟨hx, hmn, hf, hnl⟩ := h
        simp only [build, capsOf, List.append_assoc]
        have := rep_step c mn cap is e x (build is ps ++ tr) _ _ hx hmn (ih e ps tr hf) hnl
        rw [this]

theorem noLater_nil {c : Cls} {is : List Item} {e : Bool} : NoLater c is e [] := by
  intro j hj hjl
  simp at hjl
  omega

theorem noLater_stop {c : Cls} {is : List Item} {e : Bool} {ch : Char} {t : Str} (hc : c.mem ch = false) :
    NoLater c is e (ch :: t) := by
  intro j hj _ hall
  have : ch ∈ (ch :: t).take j := by
    cases j with
    | zero => omega
    | succ j => simp
  rw [hall ch this] at hc
  cases hc

def litCount (ch : Char) : List Item → Nat
  | [] => 0
  | .lit l :: is => l.count ch + litCount ch is
  | .one _ :: is => litCount ch is
  | .rep _ _ _ :: is => litCount ch is

theorem parse_count (ch : Char) {is e s caps r} (h : Parse is e s caps r) :
    litCount ch is ≤ s.count ch := by
  induction h with
  | nilOpen s => simp [litCount]
  | nilEnd => simp [litCount]
  | lit _ ih => simp [litCount, List.count_append]; omega
  | @one c is e b t caps r _ _ ih =>
    simp only [litCount]
    have := (List.drop_sublist (runeWidth (b :: t)) (b :: t)).count_le ch
    omega
  | rep x _ _ _ ih => simp [litCount, List.count_append]; omega

theorem count_drop_pos_lt (ch : Char) (t : Str) (j : Nat) (hj : 0 < j) :
    ((ch :: t).drop j).count ch < (ch :: t).count ch := by
  cases j with
  | zero => omega
  | succ j =>
    simp only [List.drop_succ_cons, List.count_cons_self]
    have := (List.drop_sublist j t).count_le ch; omega

theorem noLater_count (sep : Char) {c : Cls} {is : List Item} {e : Bool} {t t' : Str}
    (ht : t = sep :: t') (hc : t.count sep ≤ litCount sep is) : NoLater c is e t := by
  intro j hj _ _ caps r hp
  have h1 := parse_count sep hp
  subst ht
  have h2 := count_drop_pos_lt sep t' j hj
  omega

theorem parse_lit_inv {l : Str} {is e s caps r} (h : Parse (.lit l :: is) e s caps r) :
    ∃ s', s = l ++ s' ∧ Parse is e s' caps r := by
  cases h with
  | lit h' => exact ⟨_, rfl, h'⟩

theorem parse_rep_inv {c : Cls} {mn : Nat} {cap : Bool} {is e s caps r}
    (h : Parse (.rep c mn cap :: is) e s caps r) :
    ∃ x s' caps', s = x ++ s' ∧ (∀ ch ∈ x, c.mem ch = true) ∧ mn ≤ x.length ∧
      Parse is e s' caps' r := by
  cases h with
  | rep x hx hmn h' => exact ⟨x, _, _, rfl, hx, hmn, h'⟩

theorem parse_lit_prefix {l is e s caps r} (h : Parse (.lit l :: is) e s caps r) :
    l <+: s := by
  obtain ⟨s', rfl, _⟩ := parse_lit_inv h
  exact List.prefix_append _ _

theorem runeWidth_pos (b : Char) (t : Str) : 0 < runeWidth (b :: t) := by
  unfold runeWidth
  grind

/-- least number of bytes a parse of the items consumes -/
def minLen : List Item → Nat
  | [] => 0
  | .lit l :: is => l.length + minLen is
  | .one _ :: is => 1 + minLen is
  | .rep _ mn _ :: is => mn + minLen is

theorem parse_minLen {is e s caps r} (h : Parse is e s caps r) : minLen is ≤ s.length := by
  induction h with
  | nilOpen s => simp [minLen]
  | nilEnd => simp [minLen]
  | lit _ ih => simp only [minLen, List.length_append]; omega
  | @one c is e b t caps r _ _ ih =>
    simp only [minLen]
    have := List.length_drop (i := runeWidth (b :: t)) (l := b :: t)
    have := runeWidth_pos b t
    simp only [List.length_cons] at *
    omega
  | rep x _ hmn _ ih => simp only [minLen, List.length_append]; omega

theorem noLater_lit {c : Cls} {l : Str} {is : List Item} {e : Bool} {t : Str}
    (h : ∀ j, 0 < j → j + (l.length + minLen is) ≤ t.length → (∀ ch ∈ t.take j, c.mem ch = true) →
      ¬ l <+: t.drop j) :
    NoLater c (.lit l :: is) e t := by
  intro j hj hjl hall caps r hp
  have h1 := parse_minLen hp
  simp only [minLen, List.length_drop] at h1
  exact h j hj (by omega) hall (parse_lit_prefix hp)

theorem noLater_tight {c : Cls} {l : Str} {is : List Item} {e : Bool} {t : Str}
    (h : t.length ≤ l.length + minLen is) : NoLater c (.lit l :: is) e t :=
  noLater_lit (fun j hj hl _ => by omega)

/-! ### no suffix parses

Counting bounds a `.*` group only if the rest of the line has no more separator bytes than the literals
to come. Otherwise the group is forced by showing that NO suffix of the text after the byte that follows it
parses as the remaining items; that is established by walking the text from right to left. -/

def NoSuf (is : List Item) (e : Bool) (t : Str) : Prop :=
  ∀ s, s <:+ t → ∀ caps r, ¬ Parse is e s caps r

theorem noLater_of_noSuf {c : Cls} {is : List Item} {e : Bool} {t t' : Str} (ch : Char)
    (ht : t = ch :: t') (h : NoSuf is e t') : NoLater c is e t := by
  subst ht
  intro j hj _ _ caps r hp
  cases j with
  | zero => omega
  | succ j =>
    simp only [List.drop_succ_cons] at hp
    exact h _ (List.drop_suffix j t') caps r hp

theorem noSuf_nil (c : Char) (l : Str) (is : List Item) (e : Bool) :
    NoSuf (.lit (c :: l) :: is) e [] := by
  intro s hs caps r hp
  have hs' : s = [] := List.suffix_nil.mp hs
  subst hs'
  have := parse_lit_prefix hp
  simp at this

theorem noSuf_cons {is : List Item} {e : Bool} {t : Str} (d : Char) (h : NoSuf is e t)
    (hd : ∀ caps r, ¬ Parse is e (d :: t) caps r) : NoSuf is e (d :: t) := by
  intro s hs caps r hp
  rcases List.suffix_cons_iff.mp hs with rfl | hs
  · exact hd _ _ hp
  · exact h s hs _ _ hp

theorem noSuf_cons_ne {c : Char} {l : Str} {is : List Item} {e : Bool} {t : Str} (d : Char)
    (hne : c ≠ d) (h : NoSuf (.lit (c :: l) :: is) e t) : NoSuf (.lit (c :: l) :: is) e (d :: t) :=
  noSuf_cons d h (fun _ _ hp => hne (List.cons_prefix_cons.mp (parse_lit_prefix hp)).1)

theorem noSuf_run {c : Char} {l : Str} {is : List Item} {e : Bool} {t : Str} (w : Str) (hw : c ∉ w)
    (h : NoSuf (.lit (c :: l) :: is) e t) : NoSuf (.lit (c :: l) :: is) e (w ++ t) := by
  induction w with
  | nil => exact h
  | cons d w ih =>
    exact noSuf_cons_ne d (fun hcd => hw (hcd ▸ List.mem_cons_self))
      (ih (fun hm => hw (List.mem_cons_of_mem _ hm)))

theorem noSuf_field (cls : Cls) {c : Char} {l : Str} {is : List Item} {e : Bool} {t : Str}
    (hc : cls.mem c = false) (x : Str) (hx : ∀ ch ∈ x, cls.mem ch = true)
    (h : NoSuf (.lit (c :: l) :: is) e t) : NoSuf (.lit (c :: l) :: is) e (x ++ t) :=
  noSuf_run x (fun hm => by rw [hx c hm] at hc; cases hc) h

/-- in the uses `b` is the blank the literal starts with; the field excludes the literal's SECOND byte -/
theorem noSuf_blank {c c2 : Char} {l : Str} {is : List Item} {e : Bool} (b : Char) (cls : Cls) (x : Str)
    (d : Char) {t : Str} (hc2 : cls.mem c2 = false) (hx : ∀ ch ∈ x, cls.mem ch = true) (hd : c2 ≠ d)
    (h : NoSuf (.lit (c :: c2 :: l) :: is) e (x ++ d :: t)) :
    NoSuf (.lit (c :: c2 :: l) :: is) e (b :: (x ++ d :: t)) :=
  noSuf_cons b h fun _ _ hp => by
    have hpre := (List.cons_prefix_cons.mp (parse_lit_prefix hp)).2
    cases x with
    | nil => exact hd (List.cons_prefix_cons.mp hpre).1
    | cons a x =>
      have := hx a List.mem_cons_self
      rw [← (List.cons_prefix_cons.mp hpre).1, hc2] at this
      cases this

theorem noSuf_blank_ne {c c2 : Char} {l : Str} {is : List Item} {e : Bool} (b d : Char) {t : Str}
    (hd : c2 ≠ d) (h : NoSuf (.lit (c :: c2 :: l) :: is) e (d :: t)) :
    NoSuf (.lit (c :: c2 :: l) :: is) e (b :: d :: t) :=
  noSuf_blank b [] [] d rfl (by simp) hd h

theorem noSuf_any {is : List Item} {e : Bool} {t : Str} (x : Str) (h : NoSuf is e t)
    (hx : ∀ j, j < x.length → ∀ caps r, ¬ Parse is e (x.drop j ++ t) caps r) :
    NoSuf is e (x ++ t) := by
  induction x with
  | nil => simpa using h
  | cons d x ih =>
    rw [List.cons_append]
    apply noSuf_cons d
    · apply ih
      intro j hj
      have := hx (j + 1) (by simp; omega)
      simpa using this
    · have := hx 0 (by simp)
      simpa using this

theorem noSuf_skip {l : Str} {c : Cls} {mn : Nat} {cap : Bool} {is : List Item} {e : Bool} {t : Str}
    (h : NoSuf is e t) : NoSuf (.lit l :: .rep c mn cap :: is) e t := by
  intro s hs caps r hp
  obtain ⟨s1, rfl, hp1⟩ := parse_lit_inv hp
  obtain ⟨x, s2, caps', rfl, _, _, hp2⟩ := parse_rep_inv hp1
  refine h s2 ?_ _ _ hp2
  have : s2 <:+ l ++ (x ++ s2) := ⟨l ++ x, by simp⟩
  exact this.trans hs

/-- the run is `takeWhile` of the class -/
theorem span_unique (c : Cls) (x x' : Str) (d d' : Char) (r r' : Str)
    (hx : ∀ ch ∈ x, c.mem ch = true) (hx' : ∀ ch ∈ x', c.mem ch = true)
    (hd : c.mem d = false) (hd' : c.mem d' = false)
    (heq : x ++ d :: r = x' ++ d' :: r') : x = x' ∧ d = d' ∧ r = r' := by
  have run : ∀ (y : Str) (e : Char) (t : Str), (∀ ch ∈ y, c.mem ch = true) → c.mem e = false →
      (y ++ e :: t).takeWhile c.mem = y := fun y e t hy he => by
    rw [List.takeWhile_append_of_pos hy, List.takeWhile_cons_of_neg (by simp [he]), List.append_nil]
  have hxx : x = x' := by rw [← run x d r hx hd, heq, run x' d' r' hx' hd']
  subst hxx
  simpa using heq

end AM.Rx
