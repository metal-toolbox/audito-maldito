import AM.Rx.Core
/-! Named character classes (as byte ranges) that the extractor emits, and their basic facts -/
namespace AM.Rx

/-- `.` : any byte but `\n` -/
def clsAny : Cls := [(0, 9), (11, 1114111)]
/-- `\S` -/
def clsNonSpace : Cls := [(0, 8), (11, 11), (14, 31), (33, 1114111)]
/-- `\s` -/
def clsSpace : Cls := [(9, 10), (12, 13), (32, 32)]
/-- `\d` -/
def clsDigit : Cls := [(48, 57)]
/-- `[[:alnum:]]` -/
def clsAlnum : Cls := [(48, 57), (65, 90), (97, 122)]
/-- `[\w -]` -/
def clsWordSpDash : Cls := [(32, 32), (45, 45), (48, 57), (65, 90), (95, 95), (97, 122)]
/-- `[a-zA-Z0-9_-]` -/
def clsKeyType : Cls := [(45, 45), (48, 57), (65, 90), (95, 95), (97, 122)]

def allIn (c : Cls) (s : Str) : Prop := ∀ ch ∈ s, c.mem ch = true

instance (c : Cls) (s : Str) : Decidable (allIn c s) := by unfold allIn; infer_instance

def Cls.sub (c d : Cls) : Bool := c.all fun r => d.any fun q => q.1 ≤ r.1 && r.2 ≤ q.2

theorem Cls.mem_of_sub {c d : Cls} (h : c.sub d = true) (ch : Char) (hc : c.mem ch = true) :
    d.mem ch = true := by
  simp only [Cls.mem, List.any_eq_true, Bool.and_eq_true, decide_eq_true_eq] at hc ⊢
  obtain ⟨r, hr, h1, h2⟩ := hc
  have := List.all_eq_true.mp h r hr
  simp only [List.any_eq_true, Bool.and_eq_true, decide_eq_true_eq] at this
  obtain ⟨q, hq, h3, h4⟩ := this
  exact ⟨q, hq, by omega, by omega⟩

theorem mem_ranges1 (a b : Nat) (ch : Char) :
    Cls.mem [(a, b)] ch = true ↔ a ≤ ch.toNat ∧ ch.toNat ≤ b := by
  simp [Cls.mem]

theorem char_lt (c : Char) : c.toNat < 0x110000 := by
  have := c.valid
  simp only [UInt32.isValidChar, Nat.isValidChar] at this
  have h : c.toNat = c.val.toNat := rfl
  omega

theorem clsAny_mem (ch : Char) : clsAny.mem ch = true ↔ ch.toNat ≠ 10 := by
  have := char_lt ch
  simp only [clsAny, Cls.mem, List.any_cons, List.any_nil, Bool.or_false, Bool.or_eq_true,
    Bool.and_eq_true, decide_eq_true_eq]
  omega

end AM.Rx
