import AM.Rx.Theory
/-! From `matchItems` to `find` (`FindStringSubmatch`): a forced split is what it returns (`find_of_forced`: every form
proof starts there), and what it returns comes from a parse, so every captured group is a verbatim substring of the
text (`find_caps_*`, `group_mem`). `isMatch_lit_prefix` / `_suffix`: a line matched by an anchored expression shows its
first / last literal, which is what makes dispatch rows exclusive. -/
namespace AM.Rx

theorem find_of_forced {p : Pat} {ps : List Str} {tr : Str} (hf : Forced p.items p.anchE ps tr) :
    find p (build p.items ps ++ tr) =
      some (0, (build p.items ps ++ tr).length - (if p.anchE then 0 else tr.length), capsOf p.items ps) := by
  have hm := greedy_forced p.items p.anchE ps tr hf
  unfold find
  split
  · simp [hm]
    cases p.anchE <;> simp
  · simp only [findFrom, hm]
    cases p.anchE <;> simp

theorem findFrom_parse (items : List Item) (e : Bool) :
    ∀ (fuel off : Nat) (s : Str) (o l : Nat) (caps : List Str),
      findFrom items e fuel off s = some (o, l, caps) → ∃ s' r, s' <:+ s ∧ Parse items e s' caps r := by
  intro fuel
  induction fuel with
  | zero => intro off s o l caps h; simp [findFrom] at h
  | succ n ih =>
    intro off s o l caps h
    simp only [findFrom] at h
    split at h
    · rename_i caps' rest hm
      simp only [Option.some.injEq, Prod.mk.injEq] at h
      obtain ⟨_, _, rfl⟩ := h
      exact ⟨s, rest, List.suffix_refl s, sound _ _ _ _ _ hm⟩
    · split at h
      · cases h
      · obtain ⟨s', r, hs, hp⟩ := ih _ _ _ _ _ h
        exact ⟨s', r, hs.trans (List.suffix_cons _ _), hp⟩

theorem find_parse {p : Pat} {s : Str} {o l : Nat} {caps : List Str} (h : find p s = some (o, l, caps)) :
    ∃ s' r, s' <:+ s ∧ Parse p.items p.anchE s' caps r := by
  unfold find at h
  split at h
  · cases hm : matchItems p.items p.anchE s with
    | none => simp [hm] at h
    | some res =>
      simp only [hm, Option.map_some, Option.some.injEq, Prod.mk.injEq] at h
      obtain ⟨_, _, rfl⟩ := h
      exact ⟨s, res.2, List.suffix_refl s, sound _ _ _ _ _ hm⟩
  · exact findFrom_parse _ _ _ _ _ _ _ _ h

theorem isMatch_lit_prefix (p : Pat) (l : Str) (is : List Item) (s : Str)
    (hs : p.anchS = true) (hi : p.items = .lit l :: is) (hm : p.isMatch s = true) :
    l.isPrefixOf s = true := by
  cases hl : l.isPrefixOf s with
  | true => rfl
  | false => simp [Pat.isMatch, find, hs, hi, matchItems, hl] at hm

theorem parse_suffix : ∀ (is : List Item) (l : Str) (s : Str) (caps : List Str) (r : Str),
    Parse (is ++ [.lit l]) true s caps r → l <:+ s := by
  intro is
  induction is with
  | nil =>
    intro l s caps r h
    cases h with
    | lit h' => cases h'; simp
  | cons it is ih =>
    intro l s caps r h
    cases h with
    | lit h' => exact List.suffix_append_of_suffix (ih _ _ _ _ h')
    | one _ h' => exact (ih _ _ _ _ h').trans (List.drop_suffix _ _)
    | rep x _ _ h' => exact List.suffix_append_of_suffix (ih _ _ _ _ h')

theorem isMatch_lit_suffix (p : Pat) (is : List Item) (l : Str) (s : Str)
    (hs : p.anchS = true) (he : p.anchE = true) (hi : p.items = is ++ [.lit l]) (hm : p.isMatch s = true) :
    l <:+ s := by
  simp only [Pat.isMatch, find, hs, if_true, Option.isSome_map] at hm
  cases hmi : matchItems p.items p.anchE s with
  | none => simp [hmi] at hm
  | some res =>
    have := sound _ _ _ _ _ hmi
    rw [hi, he] at this
    exact parse_suffix _ _ _ _ _ this

theorem count_zero_of_allIn {c : Cls} (sep : Char) (x : Str) (h : ∀ ch ∈ x, c.mem ch = true)
    (hs : c.mem sep = false) : x.count sep = 0 := by
  apply List.count_eq_zero.mpr
  intro hm
  have := h sep hm
  rw [hs] at this; cases this

theorem allIn_mono {c d : Cls} {x : Str} (h : ∀ ch ∈ x, c.mem ch = true)
    (hcd : ∀ ch, c.mem ch = true → d.mem ch = true) : ∀ ch ∈ x, d.mem ch = true :=
  fun ch hch => hcd ch (h ch hch)

theorem parse_caps_infix {is e s caps r} (h : Parse is e s caps r) : ∀ c ∈ caps, c <:+: s := by
  induction h with
  | nilOpen s => intro c hc; cases hc
  | nilEnd => intro c hc; cases hc
  | @lit l is e s caps r _ ih =>
    intro c hc
    exact (ih c hc).trans (List.suffix_append l s).isInfix
  | @one cl is e b t caps r _ _ ih =>
    intro c hc
    exact (ih c hc).trans (List.drop_suffix _ _).isInfix
  | @rep cl mn cap is e s caps r x _ _ _ ih =>
    intro c hc
    cases cap with
    | true =>
      simp only [if_true, List.mem_cons] at hc
      rcases hc with rfl | hc
      · exact (List.prefix_append c s).isInfix
      · exact (ih c hc).trans (List.suffix_append x s).isInfix
    | false =>
      simp only [Bool.false_eq_true, if_false] at hc
      exact (ih c hc).trans (List.suffix_append x s).isInfix

theorem find_caps_infix {p : Pat} {s : Str} {o l : Nat} {caps : List Str}
    (h : find p s = some (o, l, caps)) : ∀ c ∈ caps, c <:+: s := by
  obtain ⟨s', r, hs, hp⟩ := find_parse h
  exact fun c hc => (parse_caps_infix hp c hc).trans hs.isInfix

def nCaps : List Item → Nat
  | [] => 0
  | .rep _ _ true :: is => nCaps is + 1
  | _ :: is => nCaps is

theorem parse_caps_length {is e s caps r} (h : Parse is e s caps r) : caps.length = nCaps is := by
  induction h with
  | nilOpen s => rfl
  | nilEnd => rfl
  | lit _ ih => simpa [nCaps] using ih
  | one _ _ ih => simpa [nCaps] using ih
  | @rep c mn cap is e s caps r x _ _ _ ih =>
    cases cap <;> simp [nCaps, ih]

theorem find_caps_length {p : Pat} {s : Str} {o l : Nat} {caps : List Str}
    (h : find p s = some (o, l, caps)) : caps.length = nCaps p.items := by
  obtain ⟨_, _, _, hp⟩ := find_parse h
  exact parse_caps_length hp

theorem lookupCap_mem : ∀ (ns : List String) (cs : List Str) (name : String) (c : Str),
    lookupCap ns cs name = some c → c ∈ cs
  | [], _, _, _, h => by simp [lookupCap] at h
  | _ :: _, [], _, _, h => by simp [lookupCap] at h
  | n :: ns, c' :: cs, name, c, h => by
    simp only [lookupCap] at h
    split at h
    · cases h; exact List.mem_cons_self
    · exact List.mem_cons_of_mem _ (lookupCap_mem ns cs name c h)

theorem group_mem (p : Pat) (name : String) (caps : List Str) (c : Str)
    (h : p.group name caps = some c) : c ∈ caps :=
  lookupCap_mem _ _ _ _ h

end AM.Rx
