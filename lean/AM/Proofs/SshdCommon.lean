import AM.Spec.Sshd
import AM.Rx.Find
/-! The ground under `Rows`, `Forms/*` and `SshdShape`: `mismatch`, the character classes and field predicates
of the specification, `ProcessEntry` once the row is known, and the entry functions with unguarded group
look-ups once their expression has matched. -/
namespace AM.Sshd
open AM.Rx AM.Spec AM.Gen

/-- the two strings differ at a position both have (it stops at the first difference: looking further into a
literal of the dispatch tables is what costs) -/
def mismatch : Str → Str → Bool
  | a :: as, b :: bs => a != b || mismatch as bs
  | _, _ => false

theorem mismatch_prefixes : ∀ {x y l : Str}, mismatch x y = true → x <+: l → y <+: l → False
  | a :: as, b :: bs, c :: l, hm, hx, hy => by
    simp only [mismatch, Bool.or_eq_true, bne_iff_ne, ne_eq] at hm
    obtain ⟨hac, hx'⟩ := List.cons_prefix_cons.mp hx
    obtain ⟨hbc, hy'⟩ := List.cons_prefix_cons.mp hy
    rcases hm with hm | hm
    · exact hm (hac.trans hbc.symm)
    · exact mismatch_prefixes hm hx' hy'
  | _ :: _, _ :: _, [], _, hx, _ => by simp at hx
  | [], _, _, hm, _, _ => by simp [mismatch] at hm
  | _ :: _, [], _, hm, _, _ => by simp [mismatch] at hm

/-- the model writes `strOf`, the specification `Spec.s` -/
theorem s_eq_strOf (x : String) : Spec.s x = strOf x := rfl

theorem mem_sp_digit : clsDigit.mem ' ' = false := by decide
theorem mem_sp_alnum : clsAlnum.mem ' ' = false := by decide
theorem mem_sp_nonspace : clsNonSpace.mem ' ' = false := by decide
theorem mem_sp_keytype : clsKeyType.mem ' ' = false := by decide

theorem nonspace_any (ch : Char) (h : clsNonSpace.mem ch = true) : clsAny.mem ch = true :=
  Cls.mem_of_sub (by decide) ch h

theorem digit_any (ch : Char) (h : clsDigit.mem ch = true) : clsAny.mem ch = true :=
  Cls.mem_of_sub (by decide) ch h

theorem alnum_nonspace (ch : Char) (h : clsAlnum.mem ch = true) : clsNonSpace.mem ch = true :=
  Cls.mem_of_sub (by decide) ch h

theorem keytype_nonspace (ch : Char) (h : clsKeyType.mem ch = true) : clsNonSpace.mem ch = true :=
  Cls.mem_of_sub (by decide) ch h

theorem alnum_keytype (ch : Char) (h : clsAlnum.mem ch = true) : clsKeyType.mem ch = true :=
  Cls.mem_of_sub (by decide) ch h

theorem keytype_wordSpDash (ch : Char) (h : clsKeyType.mem ch = true) : clsWordSpDash.mem ch = true :=
  Cls.mem_of_sub (by decide) ch h

theorem noNL_any {x : Str} (h : noNL x = true) : ∀ ch ∈ x, clsAny.mem ch = true := by
  intro ch hch
  have h1 : ch ≠ '\n' := by
    have := List.all_eq_true.mp h ch hch
    simpa using this
  rw [clsAny_mem]
  intro h10
  apply h1
  have := Char.ofNat_toNat ch
  rw [h10] at this
  exact this.symm


theorem noSpace_spec {x : Str} (h : noSpace x = true) : ∀ ch ∈ x, clsNonSpace.mem ch = true :=
  List.all_eq_true.mp h

theorem digits_spec {x : Str} (h : digits x = true) : x ≠ [] ∧ ∀ ch ∈ x, clsDigit.mem ch = true := by
  simpa [digits] using h

theorem alnums_spec {x : Str} (h : alnums x = true) : x ≠ [] ∧ ∀ ch ∈ x, clsAlnum.mem ch = true := by
  simpa [alnums] using h

theorem keyTypeLike_spec {x : Str} (h : keyTypeLike x = true) :
    x ≠ [] ∧ ∀ ch ∈ x, clsKeyType.mem ch = true := by
  simpa [keyTypeLike] using h

theorem isInfix_of_infix {p x : Str} (h : p <:+: x) : isInfix p x = true := by
  obtain ⟨a, b, rfl⟩ := h
  simp only [isInfix, List.any_eq_true, List.mem_range]
  refine ⟨a.length, by simp; omega, ?_⟩
  rw [List.append_assoc, List.drop_left]
  exact List.isPrefixOf_iff_prefix.mpr (List.prefix_append _ _)

theorem lacks_spec {x : Str} {p : String} (h : lacks x p = true) : ∀ j, ¬ p.toList <+: x.drop j := by
  intro j hp
  have := isInfix_of_infix (hp.isInfix.trans (List.drop_suffix j x).isInfix)
  simp [lacks, this] at h

theorem process_of_case (cfg : Cfg) (pid line : Str) (ok : Bool) (h : Handoff) (c : DCase) (f : EntryFn)
    (hc : firstCase dispatch line = some c) (hn : c.fn ≠ "userTypeLogAuditFn()")
    (hf : entryOf c.fn = some f) :
    process cfg pid line ok h = ⟨incEffs c ++ (f cfg pid line ok h).effs, (f cfg pid line ok h).res⟩ := by
  simp [process, hc, hn, hf]

theorem process_of_user_case (cfg : Cfg) (pid line : Str) (ok : Bool) (h : Handoff) (c u : DCase) (f : EntryFn)
    (hc : firstCase dispatch line = some c) (hn : c.fn = "userTypeLogAuditFn()")
    (hu : firstCase userDispatch line = some u) (hf : entryOf u.fn = some f) :
    process cfg pid line ok h =
      ⟨incEffs c ++ incEffs u ++ (f cfg pid line ok h).effs, (f cfg pid line ok h).res⟩ := by
  simp [process, hc, hn, hu, hf]

theorem simple_hit (p : Pat) (mk : Cfg → Str → List Str → Ev) (cfg : Cfg) (pid : Str) {line : Str} (ok : Bool)
    (h : Handoff) {o l : Nat} {caps : List Str} (hfind : find p line = some (o, l, caps)) :
    simple p mk cfg pid line ok h = writeOnly (mk cfg pid caps) ok := by
  simp [simple, hfind]

/-! Each expression has exactly the groups its function asks for without a guard, so on the captures of a
match the look-ups succeed and the panic branch is dead. -/

theorem loginRE_groups (a b c d e : Str) :
    loginRE.group "Username" [a, b, c, d, e] = some a ∧ loginRE.group "Source" [a, b, c, d, e] = some b ∧
    loginRE.group "Port" [a, b, c, d, e] = some c ∧ loginRE.group "Alg" [a, b, c, d, e] = some d ∧
    loginRE.group "SSHKeySum" [a, b, c, d, e] = some e := by
  simp [Pat.group, loginRE, lookupCap]

theorem certIDRE_groups (x y z : Str) :
    certIDRE.group "UserID" [x, y, z] = some x ∧ certIDRE.group "Serial" [x, y, z] = some y ∧
    certIDRE.group "CA" [x, y, z] = some z := by
  simp [Pat.group, certIDRE, lookupCap]

theorem invalidUserRE_groups (a b c : Str) :
    invalidUserRE.group "Username" [a, b, c] = some a ∧ invalidUserRE.group "Source" [a, b, c] = some b ∧
    invalidUserRE.group "Port" [a, b, c] = some c := by
  simp [Pat.group, invalidUserRE, lookupCap]

theorem incsOf_key : incsOf "processAcceptPublicKeyEntry" =
    [("ssh-key", "success"), ("ssh-cert", "success"), ("ssh-cert", "success")] := by
  simp [incsOf, fnIncs, aLookup]

theorem acceptPublicKey_key (cfg : Cfg) (pid : Str) {line : Str} (ok : Bool) (hh : Handoff) {o : Nat}
    {user src port alg sum : Str} {n : Int}
    (hfind : find loginRE line = some (o, line.length, [user, src, port, alg, sum]))
    (hn : atoi pid = some n) :
    acceptPublicKey cfg pid line ok hh =
      writeAndSend [.inc "ssh-key" "success"]
        (loginEv cfg "succeeded" src [("port", port)]
          [("loggedAs", user), ("pid", pid), ("userID", unknown)]
          [("Alg", jsonCoerce alg), ("SSHKeySum", jsonCoerce sum)]) ok hh n unknown := by
  obtain ⟨g1, g2, g3, g4, g5⟩ := loginRE_groups user src port alg sum
  simp only [acceptPublicKey, hfind, hn, g1, g2, g3, g4, g5, if_true, incAt, incsOf_key]
  rfl

/-- text follows the match but `certIDRE` does not match it: counted as a certificate, reported without CA -/
theorem acceptPublicKey_nocert (cfg : Cfg) (pid : Str) {line : Str} (ok : Bool) (hh : Handoff) {o mlen : Nat}
    {user src port alg sum : Str} {n : Int}
    (hfind : find loginRE line = some (o, mlen, [user, src, port, alg, sum]))
    (hlen : line.length ≠ mlen) (hfind2 : find certIDRE (line.drop (mlen + 1)) = none)
    (hn : atoi pid = some n) :
    acceptPublicKey cfg pid line ok hh =
      writeAndSend [.inc "ssh-cert" "success"]
        (loginEv cfg "succeeded" src [("port", port)]
          [("loggedAs", user), ("pid", pid), ("userID", unknown)]
          [("Alg", jsonCoerce alg), ("SSHKeySum", jsonCoerce sum)]) ok hh n unknown := by
  obtain ⟨g1, g2, g3, g4, g5⟩ := loginRE_groups user src port alg sum
  simp only [acceptPublicKey, hfind, hn, g1, g2, g3, g4, g5, hlen, if_false, hfind2, incAt, incsOf_key]
  rfl

theorem acceptPublicKey_cert (cfg : Cfg) (pid : Str) {line : Str} (ok : Bool) (hh : Handoff) {o mlen o' l' : Nat}
    {user src port alg sum uid serial ca : Str} {n : Int}
    (hfind : find loginRE line = some (o, mlen, [user, src, port, alg, sum]))
    (hlen : line.length ≠ mlen)
    (hfind2 : find certIDRE (line.drop (mlen + 1)) = some (o', l', [uid, serial, ca]))
    (hn : atoi pid = some n) :
    acceptPublicKey cfg pid line ok hh =
      writeAndSend [.inc "ssh-cert" "success"]
        (loginEv cfg "succeeded" src [("port", port)]
          [("loggedAs", user), ("pid", pid), ("userID", uid)]
          [("Alg", jsonCoerce alg), ("CA", jsonCoerce ca), ("SSHKeySum", jsonCoerce sum),
           ("Serial", jsonCoerce serial)]) ok hh n uid := by
  obtain ⟨g1, g2, g3, g4, g5⟩ := loginRE_groups user src port alg sum
  obtain ⟨k1, k2, k3⟩ := certIDRE_groups uid serial ca
  simp only [acceptPublicKey, hfind, hn, g1, g2, g3, g4, g5, hlen, if_false, hfind2, k1, k2, k3, incAt,
    incsOf_key]
  rfl

theorem invalidUser_matched (cfg : Cfg) (pid : Str) {line : Str} (ok : Bool) (hh : Handoff) {o l : Nat}
    {user src port : Str} (hfind : find invalidUserRE line = some (o, l, [user, src, port])) :
    invalidUser cfg pid line ok hh =
      ⟨[.inc "unknown" "failure", .write (loginEv cfg "failed" src [("port", port)] (subj3 user pid)) ok],
        if ok then .nil else .err⟩ := by
  obtain ⟨g1, g2, g3⟩ := invalidUserRE_groups user src port
  simp only [invalidUser, hfind, g1, g2, g3]
  rfl

end AM.Sshd
