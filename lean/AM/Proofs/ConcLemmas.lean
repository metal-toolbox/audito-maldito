import AM.Model.Conc
/-! First what a scheduler step does (`step_acquire`, `step_release`, `step_instr`; `step_cases`: which of them
applies). Then the two invariants of the concurrency model: the mutual-exclusion /
serialisation invariant `Inv`, and the bookkeeping invariant `InvP` (ghost log = interleaving of the executed
prefixes of the programs). -/
namespace AM.Conc

variable {S L : Type}

theorem step_acquire {sys : Sys S L} {i : Nat} {t : Thr S L} {op : Op S L} {rest : List (Op S L)}
    (ht : sys.thr[i]? = some t) (hc : t.cur = none) (htd : t.todo = op :: rest) (hg : sys.g = none) :
    step sys i = { sys with g := some i, thr := sys.thr.set i ⟨rest, some (op.body, op.init)⟩,
                            log := sys.log ++ [op] } := by
  obtain ⟨todo, cur⟩ := t
  simp only at hc htd; subst hc; subst htd
  simp only [step, ht, hg]

theorem step_release {sys : Sys S L} {i : Nat} {t : Thr S L} {loc : L}
    (ht : sys.thr[i]? = some t) (hc : t.cur = some ([], loc)) :
    step sys i = { sys with g := none, thr := sys.thr.set i ⟨t.todo, none⟩ } := by
  obtain ⟨todo, cur⟩ := t
  simp only at hc; subst hc
  simp only [step, ht]

theorem step_instr {sys : Sys S L} {i : Nat} {t : Thr S L} {ins : Instr S L} {r : List (Instr S L)} {loc : L}
    (ht : sys.thr[i]? = some t) (hc : t.cur = some (ins :: r, loc)) :
    step sys i = { sys with sh := (execInstr sys.sh loc ins).1,
                            thr := sys.thr.set i ⟨t.todo, some (r, (execInstr sys.sh loc ins).2)⟩ } := by
  obtain ⟨todo, cur⟩ := t
  simp only at hc; subst hc
  simp only [step, ht]

theorem step_cases (sys : Sys S L) (i : Nat) :
    step sys i = sys ∨
    (∃ t op rest, sys.thr[i]? = some t ∧ t.cur = none ∧ t.todo = op :: rest ∧ sys.g = none) ∨
    (∃ t loc, sys.thr[i]? = some t ∧ t.cur = some ([], loc)) ∨
    (∃ t ins r loc, sys.thr[i]? = some t ∧ t.cur = some (ins :: r, loc)) := by
  unfold step
  split
  · exact .inl rfl
  · rename_i t ht
    split
    · rename_i hc
      split
      · exact .inl rfl
      · rename_i op rest htd
        split
        · exact .inl rfl
        · rename_i hg; exact .inr (.inl ⟨t, op, rest, ht, hc, htd, hg⟩)
    · rename_i loc hc; exact .inr (.inr (.inl ⟨t, loc, ht, hc⟩))
    · rename_i ins r loc hc; exact .inr (.inr (.inr ⟨t, ins, r, loc, ht, hc⟩))

/-- what the shared state must be, given the ghost log and who (if anyone) is mid-operation -/
def Inv (s0 : S) (sys : Sys S L) : Prop :=
  match sys.g with
  | none => (∀ t ∈ sys.thr, t.cur = none) ∧ sys.sh = sys.log.foldl applyOp s0
  | some h =>
      ∃ t r loc pre op, sys.thr[h]? = some t ∧ t.cur = some (r, loc) ∧
        (∀ j t', j ≠ h → sys.thr[j]? = some t' → t'.cur = none) ∧
        sys.log = pre ++ [op] ∧
        runBody r sys.sh loc = applyOp (pre.foldl applyOp s0) op

theorem inv_holder {s0 : S} {sys : Sys S L} (h : Inv s0 sys) {hh : Nat} (hg : sys.g = some hh) :
    ∃ t r loc, sys.thr[hh]? = some t ∧ t.cur = some (r, loc) := by
  simp only [Inv, hg] at h
  obtain ⟨t0, r, loc0, pre, op, ht0, hc0, _⟩ := h
  exact ⟨t0, r, loc0, ht0, hc0⟩

theorem inv_free {s0 : S} {sys : Sys S L} (h : Inv s0 sys) (hg : sys.g = none) :
    (∀ t ∈ sys.thr, t.cur = none) ∧ sys.sh = sys.log.foldl applyOp s0 := by
  simpa only [Inv, hg] using h

theorem inv_mid {s0 : S} {sys : Sys S L} (h : Inv s0 sys) {i : Nat} {t : Thr S L} {r : List (Instr S L)} {loc : L}
    (ht : sys.thr[i]? = some t) (hc : t.cur = some (r, loc)) :
    sys.g = some i ∧ (∀ j t', j ≠ i → sys.thr[j]? = some t' → t'.cur = none) ∧
    ∃ pre op, sys.log = pre ++ [op] ∧ runBody r sys.sh loc = applyOp (pre.foldl applyOp s0) op := by
  cases hg : sys.g with
  | none =>
    have := (inv_free h hg).1 t (List.mem_of_getElem? ht)
    rw [hc] at this
    cases this
  | some hh =>
    simp only [Inv, hg] at h
    obtain ⟨t0, r0, loc0, pre, op, ht0, hc0, hothers, hlog, hrun⟩ := h
    by_cases hih : i = hh
    · subst hih
      rw [ht] at ht0; cases ht0
      rw [hc] at hc0; cases hc0
      exact ⟨rfl, hothers, pre, op, hlog, hrun⟩
    · have := hothers i t hih ht
      rw [hc] at this
      cases this

theorem inv_step (s0 : S) (sys : Sys S L) (i : Nat) (h : Inv s0 sys) : Inv s0 (step sys i) := by
  rcases step_cases sys i with h0 | ⟨t, op, rest, ht, hc, htd, hg⟩ | ⟨t, loc, ht, hc⟩ | ⟨t, ins, r, loc, ht, hc⟩
  · rw [h0]; exact h
  -- `Inv`'s equation is about `runBody` of what REMAINS: `applyOp` unfolded at the acquisition, the free-state equation at the release
  · rw [step_acquire ht hc htd hg]
    obtain ⟨hidle, hsh⟩ := inv_free h hg
    refine ⟨⟨rest, some (op.body, op.init)⟩, op.body, op.init, sys.log, op,
      by simp [lt_length_of_getElem? ht], rfl, ?_, rfl, by rw [hsh]; rfl⟩
    intro j t' hj hjt
    rw [List.getElem?_set_ne (Ne.symm hj)] at hjt
    exact hidle t' (List.mem_of_getElem? hjt)
  · rw [step_release ht hc]
    obtain ⟨_, hothers, pre, op, hlog, hrun⟩ := inv_mid h ht hc
    refine ⟨fun t' ht' => ?_, by rw [hlog, List.foldl_append]; simpa [runBody] using hrun⟩
    obtain ⟨j, hjt⟩ := List.mem_iff_getElem?.mp ht'
    by_cases hji : j = i
    · subst hji; simp [lt_length_of_getElem? ht] at hjt; rw [← hjt]
    · rw [List.getElem?_set_ne (Ne.symm hji)] at hjt
      exact hothers j t' hji hjt
  · rw [step_instr ht hc]
    obtain ⟨hg, hothers, pre, op, hlog, hrun⟩ := inv_mid h ht hc
    simp only [Inv, hg]
    refine ⟨⟨t.todo, some (r, (execInstr sys.sh loc ins).2)⟩, r, _, pre, op,
      by simp [lt_length_of_getElem? ht], rfl, ?_, hlog, by simpa [runBody] using hrun⟩
    intro j t' hj hjt
    rw [List.getElem?_set_ne (Ne.symm hj)] at hjt
    exact hothers j t' hj hjt

theorem inv_start (s0 : S) (progs : List (List (Op S L))) : Inv s0 (start s0 progs) := by
  simp only [Inv, start]
  refine ⟨?_, rfl⟩
  intro t ht
  obtain ⟨p, _, rfl⟩ := List.mem_map.1 ht
  rfl

theorem inv_reach (s0 : S) (progs : List (List (Op S L))) (sched : List Nat) :
    Inv s0 (runSched (start s0 progs) sched) :=
  List.foldlRecOn sched step (inv_start s0 progs) fun sys hs i _ => inv_step s0 sys i hs

theorem allDone_free {s0 : S} {sys : Sys S L} (h : Inv s0 sys) (hd : allDone sys) : sys.g = none := by
  cases hg : sys.g with
  | none => rfl
  | some hh =>
    obtain ⟨t, r, loc, ht, hc⟩ := inv_holder h hg
    have := (hd t (List.mem_of_getElem? ht)).1
    rw [hc] at this; cases this

def todos (sys : Sys S L) : List (List (Op S L)) := sys.thr.map (·.todo)

theorem step_todos (sys : Sys S L) (i : Nat) :
    ((step sys i).log = sys.log ∧ todos (step sys i) = todos sys) ∨
    ∃ op rest, (todos sys)[i]? = some (op :: rest) ∧ (step sys i).log = sys.log ++ [op] ∧
      todos (step sys i) = (todos sys).set i rest := by
  have hself : ∀ (t : Thr S L) c, sys.thr[i]? = some t →
      (sys.thr.set i ⟨t.todo, c⟩).map (·.todo) = sys.thr.map (·.todo) := by
    intro t c ht
    rw [List.map_set]
    exact set_self_of_getElem? (by simp [ht])
  rcases step_cases sys i with h0 | ⟨t, op, rest, ht, hc, htd, hg⟩ | ⟨t, loc, ht, hc⟩ | ⟨t, ins, r, loc, ht, hc⟩
  · rw [h0]; exact .inl ⟨rfl, rfl⟩
  · rw [step_acquire ht hc htd hg]
    exact .inr ⟨op, rest, by simp [todos, ht, htd], rfl, by simp [todos, List.map_set]⟩
  · rw [step_release ht hc]; exact .inl ⟨rfl, hself t _ ht⟩
  · rw [step_instr ht hc]; exact .inl ⟨rfl, hself t _ ht⟩

/-- the programs are `progs.map (·.map f)`; `order`: the tags logged, `rem`: the tags each thread has still to start -/
def InvP {α : Type} (f : α → Op S L) (progs : List (List α)) (log : List (Op S L))
    (tds : List (List (Op S L))) : Prop :=
  ∃ (order : List α) (rem : List (List α)),
    log = order.map f ∧ tds = rem.map (·.map f) ∧
    (order ++ rem.flatten).Perm progs.flatten ∧
    ∀ (k : Nat) (p : List α), progs[k]? = some p → ∃ (d td : List α), rem[k]? = some td ∧ d ++ td = p ∧ List.Sublist d order

theorem invP_acquire {α : Type} {f : α → Op S L} {progs : List (List α)} {log : List (Op S L)}
    {tds : List (List (Op S L))} {i : Nat} {op : Op S L} {rest : List (Op S L)}
    (h : InvP f progs log tds) (hi : tds[i]? = some (op :: rest)) :
    InvP f progs (log ++ [op]) (tds.set i rest) := by
  obtain ⟨order, rem, rfl, rfl, hperm, hsub⟩ := h
  obtain ⟨td, hri, htd⟩ : ∃ td, rem[i]? = some td ∧ td.map f = op :: rest := by simpa using hi
  obtain ⟨a, td', rfl, rfl, rfl⟩ := List.map_eq_cons_iff.mp htd
  -- the head `a` of thread `i`'s remaining tags moves to the end of `order`
  refine ⟨order ++ [a], rem.set i td', by simp, by simp [List.map_set], ?_, ?_⟩
  · rw [List.append_assoc]
    exact (List.Perm.append_left order (perm_flatten_set rem i a td' hri)).trans hperm
  · intro k p hk
    obtain ⟨d, td, hrk, hdp, hds⟩ := hsub k p hk
    by_cases hki : k = i
    · subst hki
      rw [hri] at hrk
      cases hrk
      exact ⟨d ++ [a], td', by simp [lt_length_of_getElem? hri], by simp [← hdp], hds.append (.refl _)⟩
    · exact ⟨d, td, by rwa [List.getElem?_set_ne (Ne.symm hki)], hdp,
        hds.trans (List.sublist_append_left order [a])⟩

theorem invP_step {α : Type} (f : α → Op S L) (progs : List (List α)) (sys : Sys S L) (i : Nat)
    (h : InvP f progs sys.log (todos sys)) : InvP f progs (step sys i).log (todos (step sys i)) := by
  rcases step_todos sys i with ⟨h1, h2⟩ | ⟨op, rest, h0, h1, h2⟩
  · rw [h1, h2]; exact h
  · rw [h1, h2]; exact invP_acquire h h0

theorem invP_start {α : Type} (f : α → Op S L) (progs : List (List α)) (s0 : S) :
    InvP f progs (start s0 (progs.map (·.map f))).log (todos (start s0 (progs.map (·.map f)))) := by
  refine ⟨[], progs, rfl, ?_, by simp, ?_⟩
  · simp [todos, start, Function.comp_def]
  · intro k p hk
    exact ⟨[], p, hk, rfl, List.Sublist.refl _⟩

/-- the programs `ops` are `progs` under `f` (under `id`: any programs) -/
theorem invP_reach {α : Type} (f : α → Op S L) (progs : List (List α)) {ops : List (List (Op S L))}
    (hops : ops = progs.map (·.map f)) (s0 : S) (sched : List Nat) :
    let fin := runSched (start s0 ops) sched
    InvP f progs fin.log (todos fin) :=
  List.foldlRecOn (motive := fun sys => InvP f progs sys.log (todos sys)) sched step (hops ▸ invP_start f progs s0)
    fun sys hs i _ => invP_step f progs sys i hs

theorem invP_mem {α : Type} {f : α → Op S L} {progs : List (List α)} {log : List (Op S L)}
    {tds : List (List (Op S L))} (h : InvP f progs log tds) :
    ∀ op ∈ log, ∃ a ∈ progs.flatten, f a = op := by
  obtain ⟨order, rem, rfl, _, hperm, _⟩ := h
  intro op hop
  obtain ⟨a, ha, rfl⟩ := List.mem_map.1 hop
  exact ⟨a, hperm.subset (List.mem_append_left _ ha), rfl⟩

theorem invP_done {α : Type} {f : α → Op S L} {progs : List (List α)} {log : List (Op S L)}
    {tds : List (List (Op S L))} (h : InvP f progs log tds) (hd : ∀ td ∈ tds, td = []) :
    ∃ order : List α, log = order.map f ∧ order.Perm progs.flatten ∧
      ∀ (k : Nat) (p : List α), progs[k]? = some p → List.Sublist p order := by
  obtain ⟨order, rem, hl, rfl, hperm, hsub⟩ := h
  have hrem : ∀ td ∈ rem, td = [] := fun td htd => List.map_eq_nil_iff.1 (hd _ (List.mem_map_of_mem htd))
  refine ⟨order, hl, by simpa [List.flatten_eq_nil_iff.mpr hrem] using hperm, fun k p hk => ?_⟩
  obtain ⟨d, td, hrk, rfl, hds⟩ := hsub k p hk
  simpa [hrem td (List.mem_of_getElem? hrk)] using hds

theorem allDone_todos {sys : Sys S L} (hd : allDone sys) : ∀ td ∈ todos sys, td = [] := by
  intro td htd
  obtain ⟨t, ht, rfl⟩ := List.mem_map.1 htd
  exact (hd t ht).2

end AM.Conc
