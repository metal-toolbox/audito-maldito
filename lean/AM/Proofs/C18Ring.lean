import AM.Model.Health
/-! C18, a token ring of registrations: components `c₀ … cₙ₋₁` are all registered, all but `c₀` are marked ready, and
then, for i = 0, 1, 2, …, component `c₍ᵢ₊₁₎` is registered again (pending) BEFORE `cᵢ` is marked ready. In every state
this log passes through some component is pending, so a readiness probe that sees ONE state of the map — what the
mutex around `Iterate` gives (`C18.snapshot`) — answers "not ready" every time, however it is timed. (The harness
runs this ring against free-running probers: `ring:<n>:<probers>:<ms>`.) -/
namespace AM.C18R
open AM.Health

/-- every state visited while `ops` is applied from `m` is "not ready" -/
def allPending (m : M) : List Op → Bool
  | [] => true
  | o :: r => !isReady (apply m o) && allPending (apply m o) r

theorem allPending_append (m : M) (a b : List Op) :
    allPending m (a ++ b) = (allPending m a && allPending (a.foldl apply m) b) := by
  induction a generalizing m with
  | nil => simp [allPending]
  | cons o r ih => simp [allPending, ih, Bool.and_assoc]

def Pend (c : Str) (m : M) : Prop := (c, false) ∈ m

theorem not_ready_of_pend {c : Str} {m : M} (h : Pend c m) : isReady m = false :=
  Bool.eq_false_iff.mpr fun hr => by simpa using List.all_eq_true.mp hr _ h

theorem pend_add (c : Str) (m : M) : Pend c (apply m (.add c)) := mem_aStore_self

theorem pend_keep {c : Str} {m : M} (h : Pend c m) (o : Op) (hne : o ≠ .ready c) : Pend c (apply m o) := by
  cases o with
  | add c' =>
    by_cases hc : c' = c
    · exact hc ▸ pend_add c' m
    · exact mem_aStore_of_ne h (Ne.symm hc)
  | ready c' => exact mem_aStore_of_ne h fun hc => hne (hc ▸ rfl)

theorem keep_run {c : Str} (ops : List Op) : ∀ {m : M}, Pend c m → (∀ o ∈ ops, o ≠ .ready c) →
    allPending m ops = true := by
  induction ops with
  | nil => intros; rfl
  | cons o r ih =>
    intro m h hno
    have h1 := pend_keep h o (hno o List.mem_cons_self)
    simpa [allPending, not_ready_of_pend h1] using ih h1 fun o' ho' => hno o' (List.mem_cons_of_mem _ ho')

theorem add_run (c : Str) (ops : List Op) (h : ∀ o ∈ ops, o ≠ .ready c) (m : M) :
    allPending m (.add c :: ops) = true := by
  simp [allPending, not_ready_of_pend (pend_add c m), keep_run ops (pend_add c m) h]

def name (names : List Str) (i : Nat) : Str := names.getD (i % names.length) []

/-- step `i`: register the next component again, then mark the current one ready -/
def ringStep (names : List Str) (i : Nat) : List Op := [.add (name names (i + 1)), .ready (name names i)]

def ringLog (names : List Str) (k : Nat) : List Op :=
  names.map .add ++ (names.drop 1).map .ready ++ (List.range k).flatMap (ringStep names)

theorem name_succ_ne (names : List Str) (hn : names.Nodup) (h2 : 2 ≤ names.length) (i : Nat) :
    name names (i + 1) ≠ name names i := by
  have hl : 0 < names.length := by omega
  intro h
  simp only [name, List.getD_eq_getElem?_getD, List.getElem?_eq_getElem (Nat.mod_lt _ hl), Option.getD_some] at h
  -- equal entries of a duplicate-free list: equal residues, so the length divides (i + 1) - i
  have : 1 % names.length = 0 := by simpa using Nat.sub_mod_eq_zero_of_mod_eq ((List.getElem_inj hn).mp h)
  rw [Nat.mod_eq_of_lt h2] at this
  cases this

/-- a step registers a component and then marks ANOTHER one ready: not ready, whatever the state before it -/
theorem steps (names : List Str) (hn : names.Nodup) (h2 : 2 ≤ names.length) (k : Nat) (m : M) :
    allPending m ((List.range k).flatMap (ringStep names)) = true := by
  induction k with
  | zero => rfl
  | succ k ih =>
    rw [List.range_succ, List.flatMap_append, allPending_append, ih]
    simpa [ringStep] using add_run (name names (k + 1)) [.ready (name names k)]
      (by simpa using (name_succ_ne names hn h2 k).symm) _

/-- **In every state of the ring some component is pending.** -/
theorem ring_never_ready (names : List Str) (hn : names.Nodup) (h2 : 2 ≤ names.length) (k : Nat) :
    allPending [] (ringLog names k) = true := by
  rw [ringLog, allPending_append, steps names hn h2]
  -- the set-up registers the first component and does not mark it ready
  cases names with
  | nil => simp at h2
  | cons c0 rest =>
    have hno : ∀ o ∈ rest.map Op.add ++ rest.map Op.ready, o ≠ .ready c0 := by
      rintro o ho rfl
      exact (List.nodup_cons.mp hn).1 (by simpa using ho)
    simpa using add_run c0 _ hno []

example : allPending [] (ringLog ["a".toList, "b".toList, "c".toList] 7) = true := by decide

/-- reading entry by entry is not a snapshot: with the ring `[a, b]` after its set-up (`a` pending, `b` ready), a
probe that reads `b` first (ready), lets step 0 happen (`b` registered again, `a` marked ready) and then reads `a`
(ready) has seen "all ready" although no state was -/
theorem torn_read_sees_ready :
    let s0 := fold (ringLog ["a".toList, "b".toList] 0)
    let s1 := fold (ringLog ["a".toList, "b".toList] 1)
    aLookup "b".toList s0 = some true ∧ aLookup "a".toList s1 = some true ∧
    isReady s0 = false ∧ isReady s1 = false := by decide

end AM.C18R
