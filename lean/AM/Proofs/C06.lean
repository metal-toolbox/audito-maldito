import AM.Gen.Consts
import AM.Proofs.Forms
/-! # C06 — each supported OpenSSH message yields one UserLogin with exactly its fields

`form_correct` is the property at full strength on the model: for every one of the 21 message
forms and every choice of field values in the form's (decidable, field-level) domain, processing
the line sshd prints yields exactly the expected observation — one metric increment under the
form's label, ONE event whose every field equals the value in the message (outcome `succeeded`
only for accepted authentications, component `sshd`, the line's PID, node name and machine id),
and for accepted forms the hand-off of the login. The regular expressions, both dispatch tables
and the metric labels this is proved about are regenerated from the source on every run. -/
namespace AM.C06
open AM.Sshd AM.Spec

/-- `Cfg.node` / `Cfg.mid` stand for this node's name and machine id: `RunNamedPipe` passes what `GetNodeName` and
`GetMachineID` returned to `NewSshdProcessor`, in that order (regenerated fact) -/
theorem gen_identity_wiring : AM.Gen.identityWiredInOrder = true := rfl

theorem form_correct (cfg : Cfg) (pid : Str) (f : Form) (fs : List Str) (ok : Bool) (h : Handoff)
    (hd : inDomain f fs = true) (hpid : f.accepted = true → ∃ n, atoi pid = some n) :
    ∀ line, lineOf f fs = some line →
      some (process cfg pid line ok h) = expectedOut cfg pid f fs ok h :=
  Sshd.form_correct cfg pid f fs ok h hd hpid

/-- the form's line produces exactly one event, and it is the expected one -/
theorem one_event (cfg : Cfg) (pid : Str) (f : Form) (fs : List Str) (h : Handoff)
    (hd : inDomain f fs = true) (hpid : f.accepted = true → ∃ n, atoi pid = some n)
    (line : Str) (hl : lineOf f fs = some line) :
    ∃ e, expectedEv cfg pid f fs = some e ∧ writes (process cfg pid line true h) = [(e, true)] := by
  have hc := form_correct cfg pid f fs true h hd hpid line hl
  unfold expectedOut at hc
  cases he : expectedEv cfg pid f fs with
  | none => simp [he] at hc
  | some e =>
    refine ⟨e, rfl, ?_⟩
    simp only [he] at hc
    by_cases ha : f.accepted = true
    · obtain ⟨n, hn⟩ := hpid ha
      simp only [ha, hn, if_true] at hc
      cases h <;> simp at hc <;> (rw [hc]; simp [writes])
    · simp only [ha] at hc
      simp at hc
      rw [hc]; simp [writes]

/-- outcome is `succeeded` exactly for accepted authentications; component is `sshd`; the event
carries the line's PID, this node's name and machine id -/
theorem fixed_fields (cfg : Cfg) (pid : Str) (f : Form) (fs : List Str) (e : Ev)
    (he : expectedEv cfg pid f fs = some e) :
    e.typ = "UserLogin" ∧ e.component = "sshd" ∧ (e.outcome = "succeeded" ↔ f.accepted = true) ∧
    (e.outcome = "succeeded" ∨ e.outcome = "failed") ∧
    e.target = [("host", cfg.node), ("machine-id", cfg.mid)] ∧ aLookup "pid" e.subjects = some pid := by
  unfold expectedEv at he
  split at he <;> first
    | (cases he; simp [loginEv, Form.accepted, target, subj3, aLookup])
    | (simp at he)

/-- non-vacuity: concrete messages of the hardest forms lie in the domain -/
example : inDomain .acceptedCert ["bob".toList, "fe80::1%eth0".toList, "50482".toList, "2".toList,
    "ED25519-CERT".toList, "SHA256".toList, "YI+caZKJ".toList, "foo (serial 3) bar".toList,
    "18446744073709551615".toList, "ED25519".toList, "SHA256:Pcs5".toList] = true := by decide +kernel

example : inDomain .failedPassword ["x from 6.6.6.6 port 1 ssh2".toList, "1.2.3.4".toList,
    "22".toList, "2".toList] = true := by decide +kernel

end AM.C06
