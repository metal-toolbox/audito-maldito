import AM.Model.TrackerVariants
/-! The knobs of `AM.Model.TrackerVariants`: at the code's setting the parametrised tracker is the model the
theorems are about; each other setting breaks a property on a concrete history. -/
namespace AM.C09V
open AM.Tr AM.TrV

theorem stepV_code (st : St) (op : Op) : stepV .code st op = step st op := by
  cases op with
  | remoteLogin l =>
    show remoteLoginV .code st l = remoteLogin st l
    unfold remoteLoginV remoteLogin
    simp only [hasDispV, Variant.code, Bool.false_eq_true, if_false, Bool.false_and]
    cases hf : List.filter (fun p => p.2.srcPID == l.pid) st.sessions with
    | nil => rfl
    | cons x more => obtain ⟨s, u⟩ := x; rfl
  | audit e now =>
    show auditV .code st e now = audit st e now
    unfold auditV audit
    simp only [Variant.code, Bool.false_eq_true, if_false]
    rfl
  | cleanSessions t => rfl
  | cleanLogins t => rfl

theorem runV_code (st : St) (h : List Op) : runV .code st h = run st h := by
  induction h generalizing st with
  | nil => rfl
  | cons op ops ih => simp only [runV, run, stepV_code]; split <;> simp_all

def login (pid : Int) (who : String) (at_ : Time := 0) : Login :=
  { pid := pid, cred := strOf who, hasSource := true, subjects := [("userID", strOf who)],
    srcType := strOf "IP", srcValue := strOf "10.0.0.1", srcExtra := [], target := [], loggedAt := at_ }

def ev (ts : Int) (ses : String) (typ : EvType) (pid : String) : AEvent :=
  { ts := ts, ses := strOf ses, typ := typ, pidTok := strOf pid, result := strOf "success",
    action := [], how := [], object := [], args := [] }

/-- C09 / C04: session 1 (sshd PID 7) is over before its login arrives, and one more record of it (USER_END, which
Red-Hat-style sshd logs after the credential disposal) was held behind the disposal; alice's late login releases the
queue; bob's sshd then gets PID 7, opens session 2; a straggler of session 1 comes last -/
def reuse : List Op :=
  [ .audit (ev 1 "1" .login "7") 1, .audit (ev 2 "1" .credDisp "7") 2, .audit (ev 3 "1" .other "7") 3,
    .remoteLogin (login 7 "alice"), .remoteLogin (login 7 "bob"),
    .audit (ev 4 "2" .login "7") 4, .audit (ev 5 "2" .other "7") 5, .audit (ev 6 "1" .other "7") 6 ]

/-- the code: alice's three events, then bob's two; the straggler is ignored -/
theorem reuse_code :
    emitted .code reuse = [(1, strOf "alice"), (2, strOf "alice"), (3, strOf "alice"), (4, strOf "bob"), (5, strOf "bob")] := by
  decide +kernel

/-- "ended only if the queue ENDS with the disposal": the dead session keeps PID 7, swallows bob's login, session 2 is
never emitted and the straggler of alice's session is written under bob's name -/
theorem end_by_last_breaks_C09 :
    emitted { endByLast := true } reuse = [(1, strOf "alice"), (2, strOf "alice"), (3, strOf "alice"), (6, strOf "bob")] := by
  decide +kernel

/-- C01: alice's login is left waiting (her session's records never arrive), bob's sshd gets the same PID, then the
LOGIN record with that PID opens session 1 -/
def superseded : List Op :=
  [ .remoteLogin (login 77 "alice"), .remoteLogin (login 77 "bob"),
    .audit (ev 1 "1" .login "77") 1, .audit (ev 2 "1" .other "77") 2 ]

theorem superseded_code : emitted .code superseded = [(1, strOf "bob"), (2, strOf "bob")] := by decide +kernel

/-- "keep the login that is already waiting": bob's session is written under alice's name -/
theorem keep_parked_breaks_C01 :
    emitted { keepParked := true } superseded = [(1, strOf "alice"), (2, strOf "alice")] := by decide +kernel

/-- C02 / C16: the audit stream is behind — a LOGIN record stamped 10 is processed at 1000; the stale-data sweep with
cut-off 940 (one minute before 1000) runs; the sshd login arrives a moment later -/
def lagging : List Op :=
  [ .audit (ev 10 "1" .login "7") 1000, .cleanSessions 940, .cleanLogins 940,
    .remoteLogin (login 7 "alice" 1001), .audit (ev 11 "1" .other "7") 1002 ]

theorem lagging_code : emitted .code lagging = [(10, strOf "alice"), (11, strOf "alice")] := by decide +kernel

/-- "a session is as old as its LOGIN record": the sweep discards a session that arrived a moment ago, the two halves
that arrived within a second of each other are never correlated -/
theorem stamp_by_event_breaks_C16 : emitted { stampByEvent := true } lagging = [] := by decide +kernel

end AM.C09V
