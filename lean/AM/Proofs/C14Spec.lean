import AM.Proofs.TrackerTrace
/-! C14, the judge and the theorem meet: the executable clauses `Spec.Tracker.specRender` and `specWholeIdentity`
(shared with C01's and C09's judges) hold of the model's own observation for EVERY history and every write oracle. -/
namespace AM.C14S
open AM.Tr AM.Spec.Tracker

/-- what `toAuditEvent` produces passes every rendering clause against the event it was produced from -/
theorem renders (l : Login) (e : AEvent) (idx : Nat) :
    renderClause e ⟨(toAuditEvent l e).1, (toAuditEvent l e).2.1, (toAuditEvent l e).2.2, idx⟩ = none := by
  -- one look-up at a time: unfolding them all inside the clause is much slower to check
  have h1 : aLookup "action" (toAuditEvent l e).1.metaExtra = some e.action := by simp [toAuditEvent, aLookup]
  have h2 : aLookup "how" (toAuditEvent l e).1.metaExtra = some e.how := by simp [toAuditEvent, aLookup]
  have h3 : aLookup "object" (toAuditEvent l e).1.metaExtra = some e.object := by simp [toAuditEvent, aLookup]
  have h4 : aLookup "process_args" (toAuditEvent l e).1.metaExtra =
      if e.args.isEmpty then none else some (joinNul e.args) := by
    cases ha : e.args.isEmpty <;> simp [toAuditEvent, aLookup, ha]
  simp only [renderClause, h1, h2, h3, h4]
  by_cases hr : e.result = strOf "success" <;> simp [toAuditEvent, hr]

theorem render_spec_holds (failAt : Option Nat) (h : List Op) :
    specRender h (modelObs failAt h).1 = none := by
  refine spec_of_trace fun p hp => ?_
  obtain ⟨hev, _⟩ := trace_justified failAt h p hp
  obtain ⟨i, _, hrec⟩ := auditRecs_of_take hev
  rw [if_pos]
  refine List.any_eq_true.mpr ⟨(i, p.1.ev), hrec, ?_⟩
  simp only [Bool.and_eq_true, decide_eq_true_eq]
  exact ⟨rfl, by rw [show renderClause p.1.ev (actOf p) = none from renders p.1.login p.1.ev p.2]; rfl⟩

/-- **Every emitted event carries, as a whole, the identity of one delivered login** — for every history and every
write oracle. -/
theorem whole_identity_spec_holds (failAt : Option Nat) (h : List Op) :
    specWholeIdentity h (modelObs failAt h).1 = none := by
  refine spec_of_trace fun p hp => ?_
  obtain ⟨_, hlg, _⟩ := trace_justified failAt h p hp
  obtain ⟨j, _, hlog⟩ := loginOps_of_take hlg
  rw [if_pos]
  exact List.any_eq_true.mpr ⟨(j, p.1.login), hlog, decide_eq_true rfl⟩

end AM.C14S
