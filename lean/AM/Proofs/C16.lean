import AM.Model.Tracker
import AM.Gen.Consts
/-! # C16 — the two cleanup passes remove exactly the stale, uncorrelated entries

What one cleanup pass does to the tracker state, exactly (every state, every cut-off), and the arithmetic of a ticker
that fires at `t₀ + j·I` with the cut-off `tick − I`: an entry is kept for at least `I` and at most `2·I`. -/
namespace AM.C16
open AM.Tr

/-- `cleanSessions t` never discards a correlated session, never one that is not older than the
cut-off, discards every uncorrelated older one, and touches nothing else. -/
theorem sessions_exact (st : St) (t : Time) :
    let st' := (step st (.cleanSessions t)).1
    (∀ s u, (s, u) ∈ st'.sessions ↔ ((s, u) ∈ st.sessions ∧ ¬ (u.login = none ∧ u.added < t))) ∧
    st'.logins = st.logins ∧ st'.out = st.out ∧ (step st (.cleanSessions t)).2 = none := by
  refine ⟨fun s u => ?_, rfl, rfl, rfl⟩
  cases hl : u.login <;> simp [step, List.mem_filter, hl]

/-- `cleanLogins t` discards exactly the parked logins stamped before the cut-off, and touches
nothing else. -/
theorem logins_exact (st : St) (t : Time) :
    let st' := (step st (.cleanLogins t)).1
    (∀ p l, (p, l) ∈ st'.logins ↔ ((p, l) ∈ st.logins ∧ ¬ (l.loggedAt < t))) ∧
    st'.sessions = st.sessions ∧ st'.out = st.out ∧ (step st (.cleanLogins t)).2 = none := by
  refine ⟨?_, rfl, rfl, rfl⟩
  intro p l
  simp only [step, List.mem_filter, Bool.not_eq_true', decide_eq_false_iff_not]

/-- cleanup also keeps the relative order of what it keeps (it is a sublist) and the other
bookkeeping fields -/
theorem sessions_sublist (st : St) (t : Time) :
    (step st (.cleanSessions t)).1.sessions.Sublist st.sessions ∧
    (step st (.cleanSessions t)).1.failAt = st.failAt ∧
    (step st (.cleanSessions t)).1.writes = st.writes :=
  ⟨List.filter_sublist, rfl, rfl⟩

theorem logins_sublist (st : St) (t : Time) :
    (step st (.cleanLogins t)).1.logins.Sublist st.logins ∧
    (step st (.cleanLogins t)).1.failAt = st.failAt ∧
    (step st (.cleanLogins t)).1.writes = st.writes :=
  ⟨List.filter_sublist, rfl, rfl⟩

/-- A ticker fires at `t₀ + j·I` (`j = 1, 2, …`) and cleans with the cut-off `tick − I`.
(i) the tick number `k` does not remove an entry stamped `a` if that tick is at or before `a + I`;
(ii) an entry stamped at or after the start of the ticker is removed by some tick that is no later
than `a + 2·I`. -/
theorem window (I a t₀ : Int) (k : Nat) (hI : 0 < I) :
    (t₀ + k * I ≤ a + I → ¬ (a < t₀ + k * I - I)) ∧
    (t₀ ≤ a → ∃ j : Nat, 1 ≤ j ∧ t₀ + j * I ≤ a + 2 * I ∧ a < t₀ + j * I - I) := by
  refine ⟨fun h => by omega, fun ha => ?_⟩
  have hq : 0 ≤ (a - t₀) / I := Int.ediv_nonneg (by omega) (Int.le_of_lt hI)
  have hdm : I * ((a - t₀) / I) + (a - t₀) % I = a - t₀ := Int.mul_ediv_add_emod (a - t₀) I
  have hr0 : 0 ≤ (a - t₀) % I := Int.emod_nonneg _ (by omega)
  have hr1 : (a - t₀) % I < I := Int.emod_lt_of_pos _ hI
  have hc : ((Int.toNat ((a - t₀) / I) + 2 : Nat) : Int) = (a - t₀) / I + 2 := by omega
  refine ⟨Int.toNat ((a - t₀) / I) + 2, by omega, ?_, ?_⟩
  · rw [hc, Int.add_mul, Int.mul_comm ((a - t₀) / I) I]
    omega
  · rw [hc, Int.add_mul, Int.mul_comm ((a - t₀) / I) I]
    omega

theorem window_keep (I a t₀ : Int) (_hI : 0 < I) :
    ∀ j : Nat, t₀ + j * I ≤ a + I → ¬ (a < t₀ + j * I - I) := by
  intro j h; omega

/-- read on the model: a session added at `a` survives every cleanup whose cut-off is `tick − I`
with `tick ≤ a + I`, whatever else is true of it -/
theorem session_survives (st : St) (s : Str) (u : User) (I a t₀ : Int) (j : Nat) (hI : 0 < I)
    (hm : (s, u) ∈ st.sessions) (ha : u.added = a) (htick : t₀ + j * I ≤ a + I) :
    (s, u) ∈ (step st (.cleanSessions (t₀ + j * I - I))).1.sessions := by
  have := (sessions_exact st (t₀ + j * I - I)).1 s u
  refine this.mpr ⟨hm, ?_⟩
  rintro ⟨_, h2⟩
  rw [ha] at h2
  exact (window I a t₀ j hI).1 htick h2

/-! ### the running audit processor: constants regenerated from `processors/auditd/auditd.go` -/

/-- what `tools/extract` found in `Auditd.Read`: the stale-data ticker has a period of one minute,
the cut-off handed to BOTH cleanup methods is `time.Now()` minus that same period -/
theorem daemon_constants :
    AM.Gen.cleanupTickerNs = 60000000000 ∧ AM.Gen.cleanupCutoffBackNs = 60000000000 ∧
    AM.Gen.cleanupCallsBothWithCutoff = true := ⟨rfl, rfl, rfl⟩

/-- with those constants and any phase `t₀` of the ticker: a pending half stamped at `a` is kept by
every tick up to one minute after `a` (so two halves at most a minute apart are always correlated),
and some tick no later than two minutes after `a` discards it (so halves more than two minutes
apart are not, and the held events are dropped rather than emitted late) -/
theorem window_daemon (a t₀ : Int) (ha : t₀ ≤ a) :
    (∀ j : Nat, t₀ + j * AM.Gen.cleanupTickerNs ≤ a + 60000000000 →
        ¬ (a < t₀ + j * AM.Gen.cleanupTickerNs - AM.Gen.cleanupCutoffBackNs)) ∧
    (∃ j : Nat, 1 ≤ j ∧ t₀ + j * AM.Gen.cleanupTickerNs ≤ a + 120000000000 ∧
        a < t₀ + j * AM.Gen.cleanupTickerNs - AM.Gen.cleanupCutoffBackNs) := by
  rw [daemon_constants.1, daemon_constants.2.1]
  refine ⟨fun j h => (window 60000000000 a t₀ j (by omega)).1 h, ?_⟩
  obtain ⟨j, hj1, hj2, hj3⟩ := (window 60000000000 a t₀ 0 (by omega)).2 ha
  exact ⟨j, hj1, by omega, hj3⟩

end AM.C16
