import AM.Model.DirReader
/-! C20 and the reader's retry (`readWithRetry`, `backoff.Retry`): an attempt that fails before a byte was read —
the `Open` fails, or the first `Read` does — followed by the retry delivers exactly what one successful attempt
delivers and leaves the same state. (The order of `o.lastSz = size` and the read is harmless for this reason only.) -/
namespace AM.C20R
open AM.Dir

/-- an attempt whose `Open` fails changes nothing; one whose first `Read` fails is `onWriteFailed` -/
theorem retry_after_failed_attempt (w : World) : onWrite (onWriteFailed w) = onWrite w := by
  unfold onWrite onWriteFailed
  simp only
  -- on the retry the reset rule leaves the offset alone: the size is the recorded one, the offset 0 or within the file
  by_cases h : (w.file.length < w.rf.lastSz || w.file.length < w.rf.offset) = true
  · simp [h]
  · have h' : (w.file.length < w.rf.lastSz || w.file.length < w.rf.offset) = false := by simpa using h
    simp only [h', Bool.false_eq_true, if_false]
    have h2 : ¬ w.file.length < w.rf.offset := by
      intro hc; simp [hc] at h'
    simp [h2]

/-- any number of failed attempts before the successful one -/
theorem retries (w : World) (n : Nat) : onWrite (Nat.repeat onWriteFailed n w) = onWrite w := by
  induction n with
  | zero => rfl
  | succ n ih =>
    show onWrite (onWriteFailed (Nat.repeat onWriteFailed n w)) = onWrite w
    rw [retry_after_failed_attempt, ih]

/-- the tempting guard "the size is the one recorded at the previous event: nothing new" -/
def onWriteGuarded (w : World) : World :=
  if w.file.length > 0 && w.file.length = w.rf.lastSz then w else onWrite w

/-- with the guard, the retry after a failed first read delivers nothing: the appended line is lost -/
theorem size_guard_loses_the_retry :
    let w : World := { file := "a\nb\n".toList, rf := { offset := 2, lastSz := 2 }, out := ["a".toList] }
    (onWrite (onWriteFailed w)).out = ["a".toList, "b".toList] ∧
    (onWriteGuarded (onWriteFailed w)).out = ["a".toList] := by decide

end AM.C20R
