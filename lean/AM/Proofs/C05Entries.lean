import AM.Proofs.C06Entries
/-! The equations `AM.C06E.entry_*` (hand-written model of a simple entry function = interpretation of its
regenerated descriptor) as obligations of C05 as well: this module does not build unless they do. -/
namespace AM.C05E
open AM.Gen

theorem simple_entries_translated :
    (Gen.entries.map (·.1)).length = 16 ∧ (Gen.entriesX.map (·.1)).length = 2 ∧ (Gen.untranslatedEntries.map (·.1)).length = 2 := by decide

theorem failed_password_body :
    AM.Sshd.entryOf "failedPasswordAuth" = some (AM.C06E.interp failedPasswordAuthRE entry_failedPasswordAuth) :=
  AM.C06E.entry_failedPasswordAuth

theorem max_attempts_body :
    AM.Sshd.entryOf "maxAuthAttemptsExceeded" = some (AM.C06E.interp maxAuthAttemptsExceededRE entry_maxAuthAttemptsExceeded) :=
  AM.C06E.entry_maxAuthAttemptsExceeded

end AM.C05E
