import AM.Model.Pipe
/-! C12: why the read loop must not give up on a read that has not finished. `bufio.Reader.ReadString` returns the
bytes it has consumed together with its error; a loop that sets a read deadline and simply tries again on
`os.ErrDeadlineExceeded` (to poll the context, or to log that the pipe is idle — both were proposed) throws the head
of the record away. In the model: a `timeout` input that clears the pending bytes. -/
namespace AM.C12V
open AM.Pipe

inductive PIn where
  | chunk (bs : Str)   -- the reader obtains more bytes
  | timeout            -- a read deadline fires while a record is incomplete
  deriving Repr

/-- the read loop with a deadline; `keep` = what is done with the bytes already consumed when the deadline fires -/
def feedT (keep : Bool) (d : Char) (st : PSt) : PIn → PSt
  | .chunk bs => feed d none st bs
  | .timeout => if keep then st else setPending st []

def runT (keep : Bool) (d : Char) (ins : List PIn) : List Str := (ins.foldl (feedT keep d) {}).out

def chunksOf : List PIn → List Str
  | [] => []
  | .chunk bs :: r => bs :: chunksOf r
  | .timeout :: r => chunksOf r

/-- a loop that keeps what it has read is the loop of the model, whenever the deadlines fire: the records delivered
are those of the byte stream (C12.run_eq_expected applies) -/
theorem keeping_is_harmless (d : Char) (ins : List PIn) :
    runT true d ins = (Pipe.run d none (chunksOf ins)).1 := by
  have key : ∀ (st : PSt), (ins.foldl (feedT true d) st).out = ((chunksOf ins).foldl (feed d none) st).out := by
    induction ins with
    | nil => intro st; rfl
    | cons i r ih =>
      intro st
      cases i with
      | chunk bs => simpa [feedT, chunksOf] using ih (feed d none st bs)
      | timeout => simpa [feedT, chunksOf] using ih st
  exact key {}

/-- dropping them is not: a writer that stalls in the middle of "hello world" makes the callback receive "world" -/
theorem dropping_loses_the_head :
    runT false '\n' [.chunk "first\nhello ".toList, .timeout, .chunk "world\n".toList] =
      ["first\n".toList, "world\n".toList] ∧
    runT true '\n' [.chunk "first\nhello ".toList, .timeout, .chunk "world\n".toList] =
      ["first\n".toList, "hello world\n".toList] := by
  decide +kernel

/-! ### a view into the reader's buffer is not a record

`ReadSlice` returns a slice OF the reader's internal buffer, valid until the next read. Two independent "save a copy"
rewrites kept the first fragment of a long record (the whole buffer, returned with `ErrBufferFull`), read the rest with
`ReadBytes` — which refills that very buffer — and only then copied the fragment (`append(frag, rest...)`). A pure
function cannot alias; the model below makes the buffer explicit: a view is an offset and a length, and it is READ when
it is copied. -/

/-- the reader: its buffer (capacity = its length) and the bytes of the stream not yet read -/
structure Rd where
  buf : Str
  todo : Str
  deriving Repr

/-- `fill` on an empty buffer: the next bytes of the stream overwrite the buffer from its start (what lies beyond
them stays as it was) -/
def Rd.fill (r : Rd) : Rd × Nat :=
  let k := min r.buf.length r.todo.length
  ({ buf := r.todo.take k ++ r.buf.drop k, todo := r.todo.drop k }, k)

/-- `ReadBytes(d)` after a full buffer: refill, COPY each fragment, until the delimiter (fuel: the stream's length) -/
def Rd.readBytes (d : Char) : Nat → Rd → Str → Rd × Str
  | 0, r, acc => (r, acc)
  | fuel + 1, r, acc =>
    let (r', k) := r.fill
    let got := r'.buf.take k
    match got.idxOf? d with
    | some i => ({ r' with todo := got.drop (i + 1) ++ r'.todo }, acc ++ got.take (i + 1))   -- (the unread tail goes back: it is still buffered)
    | none => if k = 0 then (r', acc ++ got) else Rd.readBytes d fuel r' (acc ++ got)

/-- a record longer than the buffer, read the way of the rewrite: the first fragment is a VIEW (offset 0, the whole
buffer), the rest is read, and then the view is copied in front of it -/
def recordByView (cap : Nat) (stream : Str) (d : Char) : Str :=
  let r0 : Rd := (({ buf := List.replicate cap ' ', todo := stream } : Rd).fill).1   -- ReadSlice filled the buffer: no delimiter in it
  let (r1, rest) := Rd.readBytes d stream.length r0 []
  r1.buf.take cap ++ rest        -- append(frag, rest...): the view is read NOW

/-- … and the way of `ReadString`: the fragment is copied when it is returned -/
def recordByCopy (cap : Nat) (stream : Str) (d : Char) : Str :=
  let r0 : Rd := (({ buf := List.replicate cap ' ', todo := stream } : Rd).fill).1
  let frag := r0.buf.take cap
  let (_, rest) := Rd.readBytes d stream.length r0 []
  frag ++ rest

/-- same length, same tail, wrong head: the record's first bytes have become bytes of its own end -/
theorem view_is_overwritten :
    recordByView 4 "abcdefghij\nnext".toList '\n' = "ij\nnefghij\n".toList ∧
    recordByCopy 4 "abcdefghij\nnext".toList '\n' = "abcdefghij\n".toList := by
  decide +kernel

end AM.C12V
