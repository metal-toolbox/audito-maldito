import AM.Proofs.AuditStep
/-! The reassembler: `Put` rewrites one cell of a sorted table (`put_eq`), `CleanUp` evicts a prefix
(`cleanUp_spec`); three invariants, each resting on the one before: `WfFl` (the table), `GrpT` (the
grouping, while nothing came late or was forced), `Books` (the processor's state). -/
namespace AM.AP

/-- the records in flight for sequence number `s` -/
def inflight (fl : List (Nat × Entry)) (s : Nat) : List Rec :=
  fl.flatMap fun p => if p.1 = s then p.2.msgs else []

structure WfFl (fl : List (Nat × Entry)) : Prop where
  sorted : fl.Pairwise (fun a b => a.1 < b.1)
  own : ∀ p ∈ fl, ∀ r ∈ p.2.msgs, r.seq = p.1 ∧ r.kind ≠ .eoe

theorem inflight_nil (s : Nat) : inflight [] s = [] := rfl

theorem inflight_append (a b : List (Nat × Entry)) (s : Nat) :
    inflight (a ++ b) s = inflight a s ++ inflight b s := by
  simp [inflight]

theorem inflight_of_ne {fl : List (Nat × Entry)} {s : Nat} (h : ∀ p ∈ fl, p.1 ≠ s) : inflight fl s = [] := by
  simp only [inflight, List.flatMap_eq_nil_iff]
  intro p hp
  simp [h p hp]

/-- the record ends its kernel event (`event.Add` sets `complete`, or it is the EOE record) -/
def closing (x : Rec) : Bool := completes x.kind || x.kind == .eoe

def added (r : Rec) (s : Nat) : List Rec := [r].filter fun x => decide (x.seq = s) && (x.kind != .eoe)

/-- `Put` on the event's entry (`none`: there is none yet): an EOE record is not appended and only marks
an entry that exists as complete -/
def upd (r : Rec) : Option Entry → Option Entry
  | none => if r.kind = .eoe then none else some ⟨[r], completes r.kind⟩
  | some e => some ⟨e.msgs ++ added r r.seq, e.complete || closing r⟩

/-- the stretch of a table that holds key `s` -/
def cell (s : Nat) (o : Option Entry) : List (Nat × Entry) := o.toList.map (s, ·)

theorem mem_cell {s : Nat} {o : Option Entry} {q : Nat × Entry} : q ∈ cell s o ↔ q.1 = s ∧ o = some q.2 := by
  obtain ⟨k, e⟩ := q
  cases o <;> simp [cell, eq_comm]

theorem mem_added {x r : Rec} {s : Nat} : x ∈ added r s ↔ x = r ∧ r.seq = s ∧ r.kind ≠ .eoe := by
  simp only [added, List.mem_filter, List.mem_singleton, Bool.and_eq_true, decide_eq_true_eq, bne_iff_ne]
  constructor <;> rintro ⟨rfl, h⟩ <;> exact ⟨rfl, h⟩

theorem inflight_cell_upd (r : Rec) (o : Option Entry) (s : Nat) :
    inflight (cell r.seq (upd r o)) s = inflight (cell r.seq o) s ++ added r s := by
  unfold inflight cell upd added
  cases o <;> by_cases he : r.kind = .eoe <;> by_cases hs : r.seq = s <;> simp [he, hs]

theorem put_nil (r : Rec) : put [] r = cell r.seq (upd r none) := by
  simp only [put, upd]; split <;> rfl

theorem put_cons_eq (e : Entry) (fl : List (Nat × Entry)) (r : Rec) :
    put ((r.seq, e) :: fl) r = cell r.seq (upd r (some e)) ++ fl := by
  by_cases he : r.kind = .eoe <;> simp [put, upd, cell, added, closing, he, beq_eq_false_iff_ne.mpr]

theorem put_cons_lt {k : Nat} (e : Entry) (fl : List (Nat × Entry)) (r : Rec) (h : r.seq < k) :
    put ((k, e) :: fl) r = cell r.seq (upd r none) ++ (k, e) :: fl := by
  simp only [put, upd, cell, Nat.ne_of_lt h, h, if_true, if_false]; split <;> rfl

theorem put_cons_gt {k : Nat} (e : Entry) (fl : List (Nat × Entry)) (r : Rec) (h : k < r.seq) :
    put ((k, e) :: fl) r = (k, e) :: put fl r := by
  simp only [put, Nat.ne_of_gt h, Nat.lt_asymm h, if_false]

theorem put_eq {fl : List (Nat × Entry)} (r : Rec) (h : fl.Pairwise (fun a b => a.1 < b.1)) :
    ∃ lo o hi, fl = lo ++ cell r.seq o ++ hi ∧ put fl r = lo ++ cell r.seq (upd r o) ++ hi ∧
      (∀ p ∈ lo, p.1 < r.seq) ∧ (∀ p ∈ hi, r.seq < p.1) := by
  induction fl with
  | nil => exact ⟨[], none, [], rfl, by rw [put_nil]; simp, by simp, by simp⟩
  | cons p fl ih =>
    obtain ⟨k, e⟩ := p
    have hs := List.pairwise_cons.mp h
    rcases Nat.lt_trichotomy r.seq k with h1 | rfl | h1
    · refine ⟨[], none, (k, e) :: fl, rfl, by rw [put_cons_lt e fl r h1]; rfl, by simp, ?_⟩
      intro q hq
      rcases List.mem_cons.mp hq with rfl | hq
      · exact h1
      · exact Nat.lt_trans h1 (hs.1 q hq)
    · exact ⟨[], some e, fl, rfl, by rw [put_cons_eq]; rfl, by simp, hs.1⟩
    · obtain ⟨lo, o, hi, h1', h2, h3, h4⟩ := ih hs.2
      refine ⟨(k, e) :: lo, o, hi, by rw [h1']; rfl, by rw [put_cons_gt e fl r h1, h2]; rfl, ?_, h4⟩
      intro q hq
      rcases List.mem_cons.mp hq with rfl | hq
      · exact h1
      · exact h3 q hq

theorem sorted_cell {lo hi : List (Nat × Entry)} {s : Nat} {o : Option Entry}
    (hlo : ∀ p ∈ lo, p.1 < s) (hhi : ∀ p ∈ hi, s < p.1)
    (h1 : lo.Pairwise (fun a b => a.1 < b.1)) (h2 : hi.Pairwise (fun a b => a.1 < b.1)) :
    (lo ++ cell s o ++ hi).Pairwise (fun a b => a.1 < b.1) := by
  simp only [List.pairwise_append, List.mem_append, mem_cell]
  refine ⟨⟨h1, ?_, ?_⟩, h2, ?_⟩
  · cases o <;> simp [cell]
  · rintro a ha b ⟨hb, -⟩
    exact hb ▸ hlo a ha
  · rintro a (ha | ⟨ha, -⟩) b hb
    · exact Nat.lt_trans (hlo a ha) (hhi b hb)
    · exact ha ▸ hhi b hb

theorem put_cases {fl : List (Nat × Entry)} (r : Rec) (h : fl.Pairwise (fun a b => a.1 < b.1)) :
    ∀ q ∈ put fl r, q ∈ fl ∨
      (∃ e, (r.seq, e) ∈ fl ∧ q = (r.seq, ⟨e.msgs ++ added r r.seq, e.complete || closing r⟩)) ∨
      (q = (r.seq, ⟨[r], completes r.kind⟩) ∧ r.kind ≠ .eoe) := by
  obtain ⟨lo, o, hi, rfl, h2, -, -⟩ := put_eq r h
  intro q hq
  simp only [h2, List.mem_append, mem_cell] at hq
  rcases hq with (hq | ⟨hk, hu⟩) | hq
  · exact Or.inl (by simp [hq])
  · cases o with
    | some e => exact Or.inr (Or.inl ⟨e, by simp [cell], Prod.ext hk (Option.some.inj hu).symm⟩)
    | none =>
      simp only [upd] at hu
      split at hu
      · cases hu
      · rename_i he
        exact Or.inr (Or.inr ⟨Prod.ext hk (Option.some.inj hu).symm, he⟩)
  · exact Or.inl (by simp [hq])

theorem put_wf {fl : List (Nat × Entry)} (r : Rec) (h : WfFl fl) :
    WfFl (put fl r) ∧ ∀ s, inflight (put fl r) s = inflight fl s ++ added r s := by
  refine ⟨⟨?_, fun p hp x hx => ?_⟩, fun s => ?_⟩
  · obtain ⟨lo, o, hi, rfl, h2, hlo, hhi⟩ := put_eq r h.sorted
    have hs := List.pairwise_append.mp h.sorted
    exact h2 ▸ sorted_cell hlo hhi (List.pairwise_append.mp hs.1).1 hs.2.1
  · rcases put_cases r h.sorted p hp with hp | ⟨e, he, rfl⟩ | ⟨rfl, hne⟩
    · exact h.own p hp x hx
    · rcases List.mem_append.mp hx with hx | hx
      · exact h.own _ he x hx
      · obtain ⟨rfl, -, hne⟩ := mem_added.mp hx
        exact ⟨rfl, hne⟩
    · cases List.mem_singleton.mp hx
      exact ⟨rfl, hne⟩
  · obtain ⟨lo, o, hi, rfl, h2, -, hhi⟩ := put_eq r h.sorted
    -- what is added for `r.seq` goes behind the cell: nothing above it is of that event
    have hc : added r s ++ inflight hi s = inflight hi s ++ added r s := by
      by_cases hs : r.seq = s
      · rw [inflight_of_ne (fun p hp => Nat.ne_of_gt (hs ▸ hhi p hp))]; simp
      · simp [added, hs]
    rw [h2]
    simp only [inflight_append, inflight_cell_upd, List.append_assoc, hc]

theorem cleanUp_spec (max : Nat) (exp : Bool) (fl : List (Nat × Entry)) :
    ∃ pre, fl = pre ++ (cleanUp max exp fl).1 ∧ (cleanUp max exp fl).2.1 = pre.map (·.2.msgs) ∧
      ((cleanUp max exp fl).2.2 = false → ∀ p ∈ pre, p.2.complete = true) := by
  induction fl with
  | nil => exact ⟨[], by simp [cleanUp]⟩
  | cons p fl ih =>
    obtain ⟨pre, h1, h2, h3⟩ := ih
    simp only [cleanUp]
    split
    · refine ⟨p :: pre, by simp [← h1], by simp [h2], ?_⟩
      intro hf q hq
      simp only [Bool.or_eq_false_iff, Bool.not_eq_false'] at hf
      rcases List.mem_cons.mp hq with rfl | hq
      · exact hf.2
      · exact h3 hf.1 q hq
    · exact ⟨[], by simp⟩

theorem flatten_filter_eq_inflight (pre : List (Nat × Entry))
    (h : ∀ p ∈ pre, ∀ r ∈ p.2.msgs, r.seq = p.1 ∧ r.kind ≠ .eoe) (s : Nat) :
    (pre.map (·.2.msgs)).flatten.filter (fun r => decide (r.seq = s)) = inflight pre s := by
  rw [List.filter_flatten, List.map_map, inflight, List.flatMap_def]
  refine congrArg _ (List.map_congr_left fun p hp => ?_)
  show p.2.msgs.filter (fun r => decide (r.seq = s)) = if p.1 = s then p.2.msgs else []
  split
  · rename_i hs
    exact List.filter_eq_self.mpr fun r hr => by simp [(h p hp r hr).1, hs]
  · rename_i hs
    exact List.filter_eq_nil_iff.mpr fun r hr => by simp [(h p hp r hr).1, hs]

/-- the sequence number of a (non-empty, uniform) group -/
def gseq : List Rec → Nat
  | [] => 0
  | r :: _ => r.seq

/-- no non-EOE record of a kernel event arrives after a record that ends the event -/
def NoLate (rs : List Rec) : Prop :=
  ∀ pre r post, rs = pre ++ r :: post → r.kind ≠ .eoe → ∀ x ∈ pre, x.seq = r.seq → closing x = false

theorem NoLate.prefix {a b : List Rec} (h : NoLate (a ++ b)) : NoLate a := by
  intro pre r post he hk x hx hs
  exact h pre r (post ++ b) (by rw [he]; simp) hk x hx hs

theorem gseq_msgs_of_own {p : Nat × Entry} (hne : p.2.msgs ≠ [])
    (ho : ∀ r ∈ p.2.msgs, r.seq = p.1 ∧ r.kind ≠ .eoe) : gseq p.2.msgs = p.1 := by
  cases hm : p.2.msgs with
  | nil => exact absurd hm hne
  | cons a b => exact (ho a (by rw [hm]; exact List.mem_cons_self)).1

/-- The groups handed over followed by those in flight are one sequence, in which eviction only moves
the boundary; what is complete or delivered has seen the record that ends its event. -/
structure GrpT (fl : List (Nat × Entry)) (dl : List (List Rec)) (ps : List Rec) : Prop where
  ne : ∀ g ∈ dl ++ fl.map (·.2.msgs), g ≠ []
  nodup : (dl.map gseq ++ fl.map (·.1)).Nodup
  closed_fl : ∀ p ∈ fl, p.2.complete = true → ∃ x ∈ ps, x.seq = p.1 ∧ closing x = true
  closed_dl : ∀ g ∈ dl, ∃ x ∈ ps, x.seq = gseq g ∧ closing x = true

theorem GrpT.ne_fl {fl : List (Nat × Entry)} {dl : List (List Rec)} {ps : List Rec} (hg : GrpT fl dl ps)
    {p : Nat × Entry} (hp : p ∈ fl) : p.2.msgs ≠ [] :=
  hg.ne _ (List.mem_append_right _ (List.mem_map_of_mem hp))

theorem GrpT.put {fl : List (Nat × Entry)} {dl : List (List Rec)} {ps : List Rec} (r : Rec)
    (hw : WfFl fl) (hg : GrpT fl dl ps) (hn : NoLate (ps ++ [r])) : GrpT (put fl r) dl (ps ++ [r]) := by
  have old : ∀ {x}, x ∈ ps → x ∈ ps ++ [r] := List.mem_append_left _
  have hnd := List.nodup_append.mp hg.nodup
  -- by `put_cases`; only a new entry can clash with a group handed over, and then the record is late
  refine ⟨fun g hgm => ?_, List.nodup_append.mpr ⟨hnd.1, ?_, fun a ha b hb => ?_⟩, fun q hq hc => ?_, fun g hgm => ?_⟩
  · rcases List.mem_append.mp hgm with hgm | hgm
    · exact hg.ne g (List.mem_append_left _ hgm)
    · obtain ⟨q, hq, rfl⟩ := List.mem_map.mp hgm
      rcases put_cases r hw.sorted q hq with hq | ⟨e, he, rfl⟩ | ⟨rfl, -⟩
      · exact hg.ne_fl hq
      · simpa using fun h => absurd h (hg.ne_fl he)
      · simp
  · exact List.pairwise_map.mpr ((put_wf r hw).1.sorted.imp Nat.ne_of_lt)
  · obtain ⟨q, hq, rfl⟩ := List.mem_map.mp hb
    rcases put_cases r hw.sorted q hq with hq | ⟨e, he, rfl⟩ | ⟨rfl, hne⟩
    · exact hnd.2.2 a ha _ (List.mem_map_of_mem hq)
    · exact hnd.2.2 a ha _ (List.mem_map.mpr ⟨_, he, rfl⟩)
    · obtain ⟨g, hgm, rfl⟩ := List.mem_map.mp ha
      intro heq
      obtain ⟨x, hx, h1, h2⟩ := hg.closed_dl g hgm
      rw [hn ps r [] rfl hne x hx (h1.trans heq)] at h2
      cases h2
  · rcases put_cases r hw.sorted q hq with hq | ⟨e, he, rfl⟩ | ⟨rfl, -⟩
    · obtain ⟨x, hx, h⟩ := hg.closed_fl q hq hc
      exact ⟨x, old hx, h⟩
    · rcases Bool.or_eq_true _ _ ▸ hc with hc | hc
      · obtain ⟨x, hx, h⟩ := hg.closed_fl _ he hc
        exact ⟨x, old hx, h⟩
      · exact ⟨r, by simp, rfl, hc⟩
    · exact ⟨r, by simp, rfl, by simp [closing, show completes r.kind = true from hc]⟩
  · obtain ⟨x, hx, h⟩ := hg.closed_dl g hgm
    exact ⟨x, old hx, h⟩

theorem GrpT.gseq_fl {fl : List (Nat × Entry)} {dl : List (List Rec)} {ps : List Rec} (hw : WfFl fl) (hg : GrpT fl dl ps)
    {p : Nat × Entry} (hp : p ∈ fl) : gseq p.2.msgs = p.1 :=
  gseq_msgs_of_own (hg.ne_fl hp) (hw.own p hp)

/-- the events of evicted groups are the keys their entries had -/
theorem GrpT.nodup_deliver_prefix {pre fl' : List (Nat × Entry)} {dl : List (List Rec)} {ps : List Rec}
    (hw : WfFl (pre ++ fl')) (hg : GrpT (pre ++ fl') dl ps) :
    ((dl ++ pre.map (·.2.msgs)).map gseq ++ fl'.map (·.1)).Nodup := by
  have hgs : ∀ p ∈ pre, (gseq ∘ fun x => x.2.msgs) p = p.1 := fun p hp => hg.gseq_fl hw (List.mem_append_left _ hp)
  rw [List.map_append, List.map_map, List.map_congr_left hgs, List.append_assoc, ← List.map_append]
  exact hg.nodup

theorem GrpT.deliver_prefix {pre fl' : List (Nat × Entry)} {dl : List (List Rec)} {ps : List Rec}
    (hw : WfFl (pre ++ fl')) (hg : GrpT (pre ++ fl') dl ps)
    (hc : ∀ p ∈ pre, p.2.complete = true) : GrpT fl' (dl ++ pre.map (·.2.msgs)) ps := by
  refine ⟨fun g hgm => hg.ne g (by rwa [List.map_append, ← List.append_assoc]), hg.nodup_deliver_prefix hw,
    fun p hp => hg.closed_fl p (List.mem_append_right _ hp), fun g hgm => ?_⟩
  rcases List.mem_append.mp hgm with hgm | hgm
  · exact hg.closed_dl g hgm
  · obtain ⟨p, hp, rfl⟩ := List.mem_map.mp hgm
    rw [hg.gseq_fl hw (List.mem_append_left _ hp)]
    exact hg.closed_fl p (List.mem_append_left _ hp) (hc p hp)

theorem flatten_filter_group {gs : List (List Rec)} (hall : ∀ g ∈ gs, ∀ x ∈ g, x.seq = gseq g)
    (hnd : (gs.map gseq).Nodup) : ∀ g ∈ gs, gs.flatten.filter (fun x => decide (x.seq = gseq g)) = g := by
  induction gs with
  | nil => intro g hg; cases hg
  | cons h t ih =>
    intro g hg
    simp only [List.map_cons, List.nodup_cons, List.mem_map, not_exists, not_and] at hnd
    simp only [List.flatten_cons, List.filter_append]
    rcases List.mem_cons.mp hg with rfl | hg'
    · have h2 : t.flatten.filter (fun x => decide (x.seq = gseq g)) = [] := by
        apply List.filter_eq_nil_iff.mpr
        intro x hx
        obtain ⟨g', hg', hxg⟩ := List.mem_flatten.mp hx
        simpa [hall g' (List.mem_cons_of_mem _ hg') x hxg] using hnd.1 g' hg'
      rw [List.filter_eq_self.mpr (fun x hx => by simp [hall g List.mem_cons_self x hx]), h2, List.append_nil]
    · rw [List.filter_eq_nil_iff.mpr fun x hx => by
        simpa [hall h List.mem_cons_self x hx] using fun heq => hnd.1 g hg' heq.symm]
      exact ih (fun g hg => hall g (List.mem_cons_of_mem _ hg)) hnd.2 g hg'

structure Books (st : St) : Prop where
  wf : WfFl st.fl
  bal : ∀ s, st.delivered.flatten.filter (fun r => decide (r.seq = s)) ++ inflight st.fl s =
    st.pushed.filter (fun r => decide (r.seq = s) && (r.kind != .eoe))
  uniform : ∀ g ∈ st.delivered, ∀ r ∈ g, r.seq = gseq g
  grp : NoLate st.pushed → st.forced = false → GrpT st.fl st.delivered st.pushed

theorem books_init : Books {} :=
  ⟨⟨List.Pairwise.nil, by simp⟩, fun s => by simp [inflight], by simp,
    fun _ _ => ⟨by simp, by simp, by simp, by simp⟩⟩

/-- the books are about four fields of the state -/
theorem Books.of_eq {st st' : St} (h : Books st) (h1 : st'.fl = st.fl) (h2 : st'.delivered = st.delivered)
    (h3 : st'.pushed = st.pushed) (h4 : st'.forced = st.forced) : Books st' :=
  ⟨h1 ▸ h.wf, fun s => by rw [h1, h2, h3]; exact h.bal s, h2 ▸ h.uniform, by rw [h1, h2, h3, h4]; exact h.grp⟩

theorem Books.put {st : St} (h : Books st) (r : Rec) :
    Books { st with fl := put st.fl r, pushed := st.pushed ++ [r] } := by
  obtain ⟨hw, hadd⟩ := put_wf r h.wf
  refine ⟨hw, fun s => ?_, h.uniform, fun hn hf => (h.grp hn.prefix hf).put r h.wf hn⟩
  show _ ++ inflight (AP.put st.fl r) s = (st.pushed ++ [r]).filter _
  rw [hadd s, ← List.append_assoc, h.bal s, List.filter_append]
  rfl

theorem Books.deliver_prefix {st : St} {pre fl' : List (Nat × Entry)} (h : Books st) (hfl : st.fl = pre ++ fl')
    (f : Bool) (hc : f = false → ∀ p ∈ pre, p.2.complete = true) :
    Books { st with fl := fl', delivered := st.delivered ++ pre.map (·.2.msgs), forced := st.forced || f } := by
  have hw := h.wf
  rw [hfl] at hw
  have hown : ∀ p ∈ pre, ∀ r ∈ p.2.msgs, r.seq = p.1 ∧ r.kind ≠ .eoe :=
    fun p hp => hw.own p (List.mem_append_left _ hp)
  refine ⟨⟨(List.pairwise_append.mp hw.sorted).2.1, fun p hp => hw.own p (List.mem_append_right _ hp)⟩,
    fun s => ?_, ?_, fun hn hf => ?_⟩
  · show (st.delivered ++ pre.map (·.2.msgs)).flatten.filter _ ++ inflight fl' s = _
    rw [List.flatten_append, List.filter_append, flatten_filter_eq_inflight pre hown s,
      List.append_assoc, ← inflight_append, ← hfl]
    exact h.bal s
  · intro g hg r hr
    rcases List.mem_append.mp hg with hg | hg
    · exact h.uniform g hg r hr
    · obtain ⟨p, hp, rfl⟩ := List.mem_map.mp hg
      rw [(hown p hp r hr).1, gseq_msgs_of_own (List.ne_nil_of_mem hr) (hown p hp)]
  · simp only [Bool.or_eq_false_iff] at hf
    exact (hfl ▸ h.grp hn hf.1).deliver_prefix hw (hc hf.2)

theorem Books.reasm {st : St} (h : Books st) (c : Cfg) (i : In) : Books (AP.evict st (reasm c st i)) := by
  have idle : ∀ pe, Books (AP.evict st { idle st with perr := pe }) := fun pe =>
    h.of_eq rfl (List.append_nil _) (List.append_nil _) (Bool.or_false _)
  have clean : ∀ {st : St} (exp : Bool), Books st → Books { st with
      fl := (cleanUp c.max exp st.fl).1, delivered := st.delivered ++ (cleanUp c.max exp st.fl).2.1,
      forced := st.forced || (cleanUp c.max exp st.fl).2.2 } := by
    intro st exp h
    obtain ⟨pre, h1, h2, h3⟩ := cleanUp_spec c.max exp st.fl
    rw [h2]
    exact h.deliver_prefix h1 _ h3
  cases i with
  | line raw p =>
    simp only [AP.reasm]
    split
    · exact idle _
    · cases p with
      | none => exact idle _
      | some r => exact (clean false (h.put r)).of_eq rfl rfl rfl rfl
  | expire => exact (clean true h).of_eq rfl rfl (List.append_nil _) rfl
  | _ => exact idle _

theorem books_stepIn (c : Cfg) (st : St) (i : In) (h : Books st) : Books (stepIn c st i).1 := by
  obtain ⟨ops, errs, sl, hs, -⟩ := stepIn_nf c st i
  exact hs ▸ (h.reasm c i).of_eq rfl rfl rfl rfl

/-- `reassembler.Close()` flushes complete or not without setting `forced`: `GrpT.closed_dl` breaks,
so what is left of `Books` is stated clause by clause -/
theorem books_close (c : Cfg) (st : St) (h : Books st) :
    (close c st).fl = [] ∧ (close c st).pushed = st.pushed ∧ (close c st).forced = st.forced ∧
    (∀ s, (close c st).delivered.flatten.filter (fun r => decide (r.seq = s)) =
      st.pushed.filter (fun r => decide (r.seq = s) && (r.kind != .eoe))) ∧
    (∀ g ∈ (close c st).delivered, ∀ r ∈ g, r.seq = gseq g) ∧
    (NoLate st.pushed → st.forced = false →
      (∀ g ∈ (close c st).delivered, g ≠ []) ∧ ((close c st).delivered.map gseq).Nodup) := by
  obtain ⟨ops, errs, hs, -, -⟩ := close_nf c st
  -- evicted as if by force: that asks nothing of the entries, and gives all of `Books` but `grp`
  have hb := h.deliver_prefix (pre := st.fl) (fl' := []) (List.append_nil _).symm true (fun h => nomatch h)
  rw [hs]
  refine ⟨rfl, List.append_nil _, Bool.or_false _, fun s => (List.append_nil _).symm.trans (hb.bal s),
    hb.uniform, fun hn hf => ?_⟩
  refine ⟨(h.grp hn hf).ne, ?_⟩
  have hw := h.wf
  have hg := h.grp hn hf
  rw [← List.append_nil st.fl] at hw hg
  have hnd := hg.nodup_deliver_prefix hw
  rw [List.map_nil, List.append_nil] at hnd
  exact hnd

end AM.AP
