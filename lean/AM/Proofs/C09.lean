import AM.Proofs.TrackerInv
/-! C09: a session that has ended is gone. Once its credential-disposal record is emitted — directly, or released from
the hold queue by a late SSH login — the session leaves the tracker, so a later reuse of the PID or of the session id
cannot be attributed to the old login; records for absent sessions are ignored; a login emits only for sessions that are
present under its PID. Step-local statements, for every write oracle and every state
(`absent_session_silent_ses` alone needs the tracker invariant). -/
namespace AM.C09
open AM.Tr

/-- once the disposal record is emitted directly the session is gone -/
theorem ended_gone (st : St) (e : AEvent) (now : Time) (em : Emitted) :
    em ∈ (step st (.audit e now)).1.out → em ∉ st.out → em.ev.typ = .credDisp → em.ev = e →
      aLookup e.ses (step st (.audit e now)).1.sessions = none := by
  have hs := step_spec st (.audit e now)
  generalize (step st (.audit e now)).1 = st', (step st (.audit e now)).2 = err at hs ⊢
  intro hem hnot htyp hev
  cases hs with
  | skip | hold => exact absurd hem hnot
  | emit => exact St.flush_closed (by simpa using hev ▸ htyp)

/-- … whatever the writes did: processing the disposal record of a bound session removes it even
when nothing could be written -/
theorem ended_gone_bound (st : St) (e : AEvent) (now : Time) (u : User) (l : Login)
    (hne : e.ses ≠ [] ∧ e.ses ≠ strOf "unset")
    (hlook : aLookup e.ses st.sessions = some u) (hl : u.login = some l) (htyp : e.typ = .credDisp) :
    aLookup e.ses (step st (.audit e now)).1.sessions = none := by
  rw [(Step.emit hne.1 hne.2 (.tracked hlook) hl).eq]
  exact St.flush_closed (by simpa using htyp)

/-- … and also when it is released from the hold queue by a late login. (The login must be one
that the tracker accepts: an invalid login is rejected with `badLogin` and changes nothing, see
the example below.) -/
theorem flushed_gone (st : St) (l : Login) (s : Str) (u : User) (more : List (Str × User))
    (hv : l.valid = true)
    (hf : st.sessions.filter (fun p => p.2.srcPID == l.pid) = (s, u) :: more)
    (hd : hasDisp u.cached = true) :
    aLookup s (step st (.remoteLogin l)).1.sessions = none := by
  rw [(Step.release hv hf).eq]
  exact St.flush_closed hd

/-- with unique keys (an invariant, `Inv.uniqS`): no entry for the session is left -/
theorem flushed_gone_mem (st : St) (l : Login) (s : Str) (u : User) (more : List (Str × User))
    (hv : l.valid = true)
    (hf : st.sessions.filter (fun p => p.2.srcPID == l.pid) = (s, u) :: more)
    (hd : hasDisp u.cached = true) :
    ∀ u', (s, u') ∉ (step st (.remoteLogin l)).1.sessions :=
  fun u' hm => aLookup_none (flushed_gone st l s u more hv hf hd) (s, u') hm rfl

theorem ended_gone_mem (st : St) (e : AEvent) (now : Time) (em : Emitted)
    (hem : em ∈ (step st (.audit e now)).1.out) (hnot : em ∉ st.out)
    (htyp : em.ev.typ = .credDisp) (hev : em.ev = e) :
    ∀ u', (e.ses, u') ∉ (step st (.audit e now)).1.sessions :=
  fun u' hm => aLookup_none (ended_gone st e now em hem hnot htyp hev) (e.ses, u') hm rfl

/-- events emitted by a login all belong to a session that is present with the login's PID (and
carry that login) -/
theorem absent_session_silent (st : St) (l : Login) (new : List Emitted)
    (hnew : (step st (.remoteLogin l)).1.out = st.out ++ new) :
    ∀ em ∈ new, em.login = l ∧
      ∃ s u, (s, u) ∈ st.sessions ∧ u.srcPID = l.pid ∧ em.ev ∈ u.cached := by
  have hs := step_spec st (.remoteLogin l)
  generalize (step st (.remoteLogin l)).1 = st', (step st (.remoteLogin l)).2 = err at hs hnew
  cases hs with
  | skip | park => cases List.append_cancel_left (hnew.symm.trans (List.append_nil _).symm); simp
  | @release _ s u more hv hf =>
    cases List.append_cancel_left hnew
    exact fun em hem => ⟨(mem_under.mp hem).1, s, u, (matched hf).1, (matched hf).2,
      by simpa using List.mem_of_mem_take (mem_under.mp hem).2⟩

/-- in a reachable state the event's own session id is that session's key -/
theorem absent_session_silent_ses (h : List Op) (st : St) (hi : Inv h st) (l : Login)
    (new : List Emitted) (hnew : (step st (.remoteLogin l)).1.out = st.out ++ new) :
    ∀ em ∈ new, em.login = l ∧
      ∃ u, (em.ev.ses, u) ∈ st.sessions ∧ u.srcPID = l.pid ∧ em.ev ∈ u.cached := by
  intro em hem
  obtain ⟨hl, s, u, hm, hp, hc⟩ := absent_session_silent st l new hnew em hem
  have := (hi.cachedOk s u em.ev hm hc).1
  exact ⟨hl, u, this ▸ hm, hp, hc⟩

/-- no session under the login's PID: nothing is emitted -/
theorem no_session_no_output (st : St) (l : Login)
    (hno : ∀ x ∈ st.sessions, x.2.srcPID ≠ l.pid) :
    (step st (.remoteLogin l)).1.out = st.out := by
  obtain ⟨new, h1⟩ := out_step st (.remoteLogin l)
  cases new with
  | nil => simpa using h1
  | cons em r =>
    obtain ⟨_, s, u, hm, hp, _⟩ := absent_session_silent st l (em :: r) h1 em List.mem_cons_self
    exact absurd hp (hno (s, u) hm)

/-- a record (other than a LOGIN record) for a session that is not present is ignored: the whole state is unchanged
and there is no error -/
theorem late_record_ignored_state (st : St) (e : AEvent) (now : Time) :
    aLookup e.ses st.sessions = none → e.typ ≠ .login → step st (.audit e now) = (st, none) := by
  intro hlook htyp
  by_cases h : e.ses = [] ∨ e.ses = strOf "unset"
  · exact (Step.skip (.noSession h)).eq
  · exact (Step.skip (.stray (fun h1 => h (.inl h1)) (fun h2 => h (.inr h2)) hlook htyp)).eq

theorem late_record_ignored (st : St) (e : AEvent) (now : Time) :
    aLookup e.ses st.sessions = none → e.typ ≠ .login →
      (step st (.audit e now)).1.out = st.out ∧ (step st (.audit e now)).1.sessions = st.sessions := by
  intro hlook htyp
  rw [late_record_ignored_state st e now hlook htyp]
  exact ⟨rfl, rfl⟩

/-! `flushed_gone` needs `l.valid`: an invalid login leaves the ended session in place and is answered with `badLogin`. -/
def heldDisp : AEvent :=
  { ts := 1, ses := strOf "7", typ := .credDisp, pidTok := strOf "9", result := [], action := [],
    how := [], object := [], args := [] }
def heldSt : St := { sessions := [(strOf "7", ⟨0, 9, none, [heldDisp]⟩)] }
def badL : Login :=
  { pid := 9, cred := [], hasSource := true, subjects := [], srcType := [], srcValue := [],
    srcExtra := [], target := [], loggedAt := 0 }

example : heldSt.sessions.filter (fun p => p.2.srcPID == badL.pid) = [(strOf "7", ⟨0, 9, none, [heldDisp]⟩)] ∧
    hasDisp [heldDisp] = true ∧
    (step heldSt (.remoteLogin badL)).2 = some .badLogin ∧
    aLookup (strOf "7") (step heldSt (.remoteLogin badL)).1.sessions ≠ none := by
  refine ⟨by decide +kernel, by decide +kernel, by decide +kernel, by decide +kernel⟩

end AM.C09
