import AM.Gen.Consts
import AM.Model.Handoff
import AM.Proofs.TrackerInv
/-! # C10 — whole events in causal order

`causal`: for EVERY schedule of the sshd thread, the hand-off and the audit threads (any
interleaving, any audit input, write failures on either side, cancellations, clean-ups), every
UserAction in the shared output is preceded by the UserLogin event of the very login whose
identity it carries. `login_once`: the UserLogin events in the output are exactly the logins the
sshd thread processed successfully, in order, each once. `output_only_grows`: nothing written is
ever retracted or rewritten.

*Partial*: that a line is never torn or interleaved with another rests on `encoding/json` doing
one `Write` per event and on `O_APPEND` writes of one buffer being atomic with respect to the other
Go routine; no executable model can establish that. It is exercised by the harness on a real
`O_APPEND` file (in-process and through the built daemon). -/
namespace AM.C10
open AM.HO

/-- the hand-off is modelled as a rendezvous (`HO.Act.handoff`: the sshd thread stays blocked until the correlator
takes the login): the `logins` channel of `RunNamedPipe` is unbuffered in the working tree (regenerated fact) -/
theorem gen_logins_rendezvous : AM.Gen.loginsChanUnbuffered = true := rfl

/-- the model has ONE output that both pipelines append to (`HO.St.out`): `RunNamedPipe` creates one event writer — one
file handle, one encoder — and hands that same writer to the sshd processor and to the audit processor (regenerated
fact). With a writer (and file handle) per pipeline the descriptor's write lock no longer orders the two pipelines'
writes, and whole lines rest on the kernel alone (on a FIFO: only up to PIPE_BUF bytes). -/
theorem gen_one_shared_writer : AM.Gen.oneSharedEventWriter = true := rfl

open AM.Tr (Login Emitted AEvent Time Inv loginsOf loginsOf_append inv_init inv_step out_step)

/-- every UserAction is preceded by the UserLogin of the login it carries -/
def Causal (out : List Item) : Prop :=
  ∀ pre post em, out = pre ++ .action em :: post → .login em.login ∈ pre

theorem causal_nil : Causal [] := by
  intro pre post em h; simp at h

theorem Causal.append {out new : List Item} (h : Causal out) (hn : ∀ em, .action em ∈ new → Item.login em.login ∈ out) :
    Causal (out ++ new) :=
  justified_append (act := Item.action) (G := fun pre em => Item.login em.login ∈ pre)
    (fun _ _ _ => List.mem_append_left _) h hn

structure J (st : HO.St) : Prop where
  inv : Inv st.hist st.tr
  delivered : ∀ l ∈ loginsOf st.hist, Item.login l ∈ st.out
  inflight : ∀ l, st.inflight = some l → Item.login l ∈ st.out
  causal : Causal st.out

theorem j_init (failAt : Option Nat) (todo : List Login) (evs : List (AEvent × Time)) :
    J { sshdTodo := todo, auditTodo := evs, tr := { failAt := failAt } } :=
  ⟨inv_init failAt, by simp [loginsOf], by simp, causal_nil⟩

theorem track_out (st : HO.St) (op : Tr.Op) :
    ∃ new, (Tr.step st.tr op).1.out = st.tr.out ++ new ∧ (track st op).out = st.out ++ new.map .action := by
  obtain ⟨new, hnew⟩ := out_step st.tr op
  exact ⟨new, hnew, by simp [track, hnew]⟩

theorem j_track (st : HO.St) (op : Tr.Op) (h : J st)
    (hl : ∀ l, op = .remoteLogin l → Item.login l ∈ st.out) :
    Inv (track st op).hist (track st op).tr ∧
    (∀ l ∈ loginsOf (track st op).hist, Item.login l ∈ (track st op).out) ∧
    Causal (track st op).out ∧ (∀ x ∈ st.out, x ∈ (track st op).out) := by
  have hi := inv_step st.hist st.tr op h.inv
  obtain ⟨new, hnew, hout⟩ := track_out st op
  have hdel : ∀ l ∈ loginsOf (st.hist ++ [op]), Item.login l ∈ st.out := by
    intro l hl'
    rw [loginsOf_append] at hl'
    rcases List.mem_append.mp hl' with hl' | hl'
    · exact h.delivered l hl'
    · cases op <;> simp only [loginsOf, List.mem_singleton, List.not_mem_nil] at hl'
      exact hl l (hl' ▸ rfl)
  rw [hout]
  refine ⟨hi, fun l hl' => List.mem_append_left _ (hdel l hl'), h.causal.append fun em hem => ?_,
    fun x hx => List.mem_append_left _ hx⟩
  -- an emitted event carries a login the tracker was given
  obtain ⟨em', hem', heq⟩ := List.mem_map.mp hem
  cases heq
  exact hdel em.login (hi.outOk em (hnew ▸ List.mem_append_right _ hem')).2.1

/-- A step does nothing; or the sshd thread takes its next login and writes its UserLogin or
fails to; or the login in flight is dropped; or the tracker executes an operation — a login only if
it is the one in flight. -/
theorem step_cases (st : HO.St) (a : Act) :
    HO.step st a = st ∨
    (∃ l rest, st.sshdTodo = l :: rest ∧
      (HO.step st a = { st with out := st.out ++ [.login l], inflight := some l, sshdTodo := rest } ∨
       HO.step st a = { st with sshdTodo := rest })) ∨
    HO.step st a = { st with inflight := none } ∨
    ∃ op inf todo, HO.step st a = { track st op with inflight := inf, auditTodo := todo } ∧
      (∀ l, op = .remoteLogin l → st.inflight = some l) ∧ (inf = none ∨ inf = st.inflight) := by
  -- (the step is named before its definition is split: the statement mentions it five times)
  generalize hs : HO.step st a = st'
  cases a with
  | sshdWrite =>
    simp only [HO.step] at hs
    split at hs <;> subst hs
    · rename_i l rest _ htodo
      exact Or.inr (Or.inl ⟨l, rest, htodo, Or.inl rfl⟩)
    · exact Or.inl rfl
  | sshdWriteFail =>
    simp only [HO.step] at hs
    split at hs <;> subst hs
    · rename_i l rest _ htodo
      exact Or.inr (Or.inl ⟨l, rest, htodo, Or.inr rfl⟩)
    · exact Or.inl rfl
  | handoff =>
    simp only [HO.step] at hs
    split at hs
    · rename_i l hin
      split at hs <;> subst hs
      · exact Or.inl rfl
      · exact Or.inr (Or.inr (Or.inr ⟨.remoteLogin l, none, st.auditTodo, rfl, fun _ he => by cases he; exact hin, Or.inl rfl⟩))
    · exact Or.inl hs.symm
  | sshdCancel => exact Or.inr (Or.inr (Or.inl hs.symm))
  | audit =>
    simp only [HO.step] at hs
    split at hs
    · rename_i e now rest _
      split at hs <;> subst hs
      · exact Or.inl rfl
      · exact Or.inr (Or.inr (Or.inr ⟨.audit e now, st.inflight, rest, rfl, fun _ => nofun, Or.inr rfl⟩))
    · exact Or.inl hs.symm
  | cleanS t =>
    simp only [HO.step] at hs
    split at hs <;> subst hs
    · exact Or.inl rfl
    · exact Or.inr (Or.inr (Or.inr ⟨.cleanSessions t, st.inflight, st.auditTodo, rfl, fun _ => nofun, Or.inr rfl⟩))
  | cleanL t =>
    simp only [HO.step] at hs
    split at hs <;> subst hs
    · exact Or.inl rfl
    · exact Or.inr (Or.inr (Or.inr ⟨.cleanLogins t, st.inflight, st.auditTodo, rfl, fun _ => nofun, Or.inr rfl⟩))

theorem j_step (st : HO.St) (a : Act) (h : J st) : J (HO.step st a) := by
  rcases step_cases st a with hs | ⟨l, rest, -, hs | hs⟩ | hs | ⟨op, inf, todo, hs, hl, hinf⟩ <;> rw [hs]
  · exact h
  · exact ⟨h.inv, fun x hx => List.mem_append_left _ (h.delivered x hx), fun x hx => by cases hx; simp,
      h.causal.append (by simp)⟩
  · exact ⟨h.inv, h.delivered, h.inflight, h.causal⟩
  · exact ⟨h.inv, h.delivered, nofun, h.causal⟩
  · obtain ⟨a, b, c, d⟩ := j_track st op h fun l he => h.inflight l (hl l he)
    refine ⟨a, b, fun l hl' => ?_, c⟩
    rcases hinf with rfl | rfl
    · cases hl'
    · exact d _ (h.inflight l hl')

theorem j_run (st : HO.St) (sched : List Act) (h : J st) : J (HO.run st sched) :=
  List.foldlRecOn sched HO.step h fun s hs a _ => j_step s a hs

/-- **Causal order, for every schedule.** -/
theorem causal (failAt : Option Nat) (todo : List Login) (evs : List (AEvent × Time)) (sched : List Act)
    (pre post : List Item) (em : Emitted)
    (h : (HO.run { sshdTodo := todo, auditTodo := evs, tr := { failAt := failAt } } sched).out =
      pre ++ .action em :: post) : Item.login em.login ∈ pre :=
  (j_run _ sched (j_init failAt todo evs)).causal pre post em h

/-- … and the login whose identity the event carries is one the sshd thread really handed over -/
theorem action_login_delivered (failAt : Option Nat) (todo : List Login) (evs : List (AEvent × Time))
    (sched : List Act) (em : Emitted)
    (h : Item.action em ∈ (HO.run { sshdTodo := todo, auditTodo := evs, tr := { failAt := failAt } } sched).out) :
    Item.login em.login ∈ (HO.run { sshdTodo := todo, auditTodo := evs, tr := { failAt := failAt } } sched).out := by
  obtain ⟨pre, post, he⟩ := List.append_of_mem h
  have := causal failAt todo evs sched pre post em he
  rw [he]; exact List.mem_append_left _ this

def loginsIn (out : List Item) : List Login :=
  out.filterMap fun x => match x with | .login l => some l | _ => none

theorem loginsIn_append (a b : List Item) : loginsIn (a ++ b) = loginsIn a ++ loginsIn b := by
  simp [loginsIn, List.filterMap_append]

theorem loginsIn_actions (new : List Emitted) : loginsIn (new.map .action) = [] := by
  simp [loginsIn, List.filterMap_map, Function.comp_def]

/-- **No UserLogin is written twice.** For every schedule the UserLogin events in the output are a
subsequence of the sshd thread's work list (in order, each at most once). -/
theorem login_once (st : HO.St) (sched : List Act) :
    ∃ done, (loginsIn (HO.run st sched).out = loginsIn st.out ++ done) ∧
      List.Sublist (done ++ (HO.run st sched).sshdTodo) st.sshdTodo := by
  induction sched generalizing st with
  | nil => exact ⟨[], by simp [HO.run], by simp [HO.run]⟩
  | cons a rest ih =>
    obtain ⟨done, h1, h2⟩ := ih (HO.step st a)
    simp only [HO.run, List.foldl_cons] at h1 h2 ⊢
    rcases step_cases st a with hs | ⟨l, rest', htd, hs | hs⟩ | hs | ⟨op, inf, todo, hs, -, -⟩ <;> rw [hs] at h1 h2 ⊢
    · exact ⟨done, h1, h2⟩
    · exact ⟨l :: done, by rw [h1, loginsIn_append]; simp [loginsIn], by rw [htd]; simpa using h2⟩
    · exact ⟨done, h1, by rw [htd]; exact h2.cons _⟩
    · exact ⟨done, h1, h2⟩
    · obtain ⟨new, -, hout⟩ := track_out st op
      have hsame : loginsIn (track st op).out = loginsIn st.out := by
        rw [hout, loginsIn_append, loginsIn_actions, List.append_nil]
      exact ⟨done, hsame ▸ h1, h2⟩

/-- what has been written is never retracted or changed -/
theorem output_only_grows (st : HO.St) (a : Act) : ∃ new, (HO.step st a).out = st.out ++ new := by
  rcases step_cases st a with hs | ⟨l, rest, -, hs | hs⟩ | hs | ⟨op, inf, todo, hs, -, -⟩ <;> rw [hs]
  · exact ⟨[], (List.append_nil _).symm⟩
  · exact ⟨_, rfl⟩
  · exact ⟨[], (List.append_nil _).symm⟩
  · exact ⟨[], (List.append_nil _).symm⟩
  · obtain ⟨new, -, hout⟩ := track_out st op
    exact ⟨_, hout⟩

def demoLogin (pid : Int) (who : String) : Login :=
  { pid := pid, cred := who.toList, hasSource := true, subjects := [("userID", who.toList)],
    srcType := "IP".toList, srcValue := "10.0.0.1".toList, srcExtra := [], target := [], loggedAt := 0 }

def demoEv (ts : Int) (ses : String) (typ : AM.Tr.EvType) (pid : String) : AEvent :=
  { ts := ts, ses := ses.toList, typ := typ, pidTok := pid.toList, result := "success".toList,
    action := [], how := [], object := [], args := [] }

/-- two sessions; the audit side runs ahead for session 1 (its events are held and released by the
hand-off), the sshd side runs ahead for session 2 -/
def demoInit : HO.St :=
  { sshdTodo := [demoLogin 100 "alice", demoLogin 200 "bob"],
    auditTodo := [(demoEv 1 "1" .login "100", 1), (demoEv 2 "1" .other "100", 2), (demoEv 3 "2" .login "200", 3),
                  (demoEv 4 "2" .other "200", 4), (demoEv 5 "1" .credDisp "100", 5)] }

def demoSched : List Act :=
  [.audit, .audit, .sshdWrite, .audit, .handoff, .sshdWrite, .handoff, .audit, .audit]

/-- the output of that schedule: alice's UserLogin, the two held events of session 1, bob's
UserLogin, then session 2's events and the end of session 1 — every action after its own login -/
example :
    (HO.run demoInit demoSched).out.map (fun x => match x with
      | .login l => (0, l.pid) | .action em => (em.ev.ts, em.login.pid)) =
    [(0, 100), (1, 100), (2, 100), (0, 200), (3, 200), (4, 200), (5, 100)] := by decide +kernel

end AM.C10
