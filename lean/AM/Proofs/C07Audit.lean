import AM.Model.AuditLine
import AM.Proofs.C12
/-! C07, audit side: the record terminator is not part of the record — for EVERY byte string `l`,
`ParseLogLine (l ++ "\n")` sees exactly what `ParseLogLine l` sees (`audit_line`); `audit_through_the_pipe` composes
that with C12's framing of the pipe. -/
namespace AM.C07A
open AM.AuditLine

theorem isPrefixOf_snoc (pat s : Str) (c : Char) (hc : c ∉ pat) :
    pat.isPrefixOf (s ++ [c]) = pat.isPrefixOf s := by
  rw [Bool.eq_iff_iff, List.isPrefixOf_iff_prefix, List.isPrefixOf_iff_prefix, List.prefix_concat_iff]
  exact ⟨fun h => h.resolve_left fun h0 => hc (by simp [h0]), Or.inr⟩

theorem indexFrom_snoc (pat : Str) (hne : pat ≠ []) (c : Char) (hc : c ∉ pat) (s : Str) (k : Nat) :
    indexFrom pat (s ++ [c]) k = indexFrom pat s k := by
  induction s generalizing k with
  | nil =>
    have h2 : pat.isPrefixOf ([] : Str) = false :=
      List.isPrefixOf_length_pos_nil (List.length_pos_iff.mpr hne)
    have h1 : pat.isPrefixOf [c] = false := h2 ▸ isPrefixOf_snoc pat [] c hc
    simp [indexFrom, h1, h2]
  | cons x xs ih =>
    simp only [List.cons_append, indexFrom]
    have := isPrefixOf_snoc pat (x :: xs) c hc
    simp only [List.cons_append] at this
    rw [this, ih]

theorem indexFrom_bound (pat : Str) (s : Str) (k i : Nat) (h : indexFrom pat s k = some i) :
    k ≤ i ∧ i - k + pat.length ≤ s.length := by
  induction s generalizing k with
  | nil =>
    simp only [indexFrom] at h
    split at h
    · rename_i hp
      cases h
      have := (List.isPrefixOf_iff_prefix.mp hp).length_le
      simp only [List.length_nil] at this ⊢
      omega
    · cases h
  | cons x xs ih =>
    simp only [indexFrom] at h
    split at h
    · rename_i hp
      cases h
      have := (List.isPrefixOf_iff_prefix.mp hp).length_le
      simp only [List.length_cons] at this ⊢
      omega
    · have := ih (k + 1) h
      simp only [List.length_cons]
      omega

theorem strip1_none_of_nil (seqs : List Str) (hne : ∀ q ∈ seqs, q ≠ []) : strip1 seqs [] = none := by
  simp only [strip1]
  rw [List.find?_eq_none.mpr fun q hq => by
    simp [List.isPrefixOf_length_pos_nil (List.length_pos_iff.mpr (hne q hq))]]

theorem strip1_snoc_nl (seqs : List Str) (hnl : ∀ q ∈ seqs, '\n' ∈ q → q = ['\n']) (x : Str) (hx : x ≠ []) :
    strip1 seqs (x ++ ['\n']) = (strip1 seqs x).map (· ++ ['\n']) := by
  have hpre : ∀ q ∈ seqs, q.isPrefixOf (x ++ ['\n']) = q.isPrefixOf x := by
    intro q hq
    by_cases hc : '\n' ∈ q
    · rw [hnl q hq hc]
      cases x with
      | nil => exact absurd rfl hx
      | cons c r => simp [List.isPrefixOf]
    · exact isPrefixOf_snoc q x '\n' hc
  have hfind : seqs.find? (fun q => q.isPrefixOf (x ++ ['\n'])) = seqs.find? (fun q => q.isPrefixOf x) := by
    rw [← List.head?_filter, ← List.head?_filter, List.filter_congr hpre]
  simp only [strip1, hfind]
  cases hf : seqs.find? (fun q => q.isPrefixOf x) with
  | none => rfl
  | some q =>
    have hp : q.isPrefixOf x = true := by simpa using List.find?_some hf
    have hle := (List.isPrefixOf_iff_prefix.mp hp).length_le
    simp only [Option.map_some]
    rw [List.drop_append_of_le_length hle]

theorem trimLeftW_snoc_nl (seqs : List Str) (hne : ∀ q ∈ seqs, q ≠ [])
    (hnl : ∀ q ∈ seqs, '\n' ∈ q → q = ['\n']) (h1 : strip1 seqs ['\n'] = some []) (x : Str) :
    trimLeftW seqs (x ++ ['\n']) = if trimLeftW seqs x = [] then [] else trimLeftW seqs x ++ ['\n'] := by
  -- where `trimLeftW` stops on `x`, it stops on `x ++ "\n"` too, unless `x` is empty
  have stop : ∀ x o, strip1 seqs x = o → (∀ r, o = some r → ¬ r.length < x.length) →
      trimLeftW seqs (x ++ ['\n']) = if x = [] then [] else x ++ ['\n'] := by
    intro x o hst hge
    by_cases hx : x = []
    · subst hx
      have h0 : trimLeftW seqs [] = [] := by rw [trimLeftW, strip1_none_of_nil seqs hne]
      rw [List.nil_append, trimLeftW, h1]
      simpa using h0
    · rw [trimLeftW, strip1_snoc_nl seqs hnl x hx, hst]
      cases o with
      | none => simp [hx]
      | some r => simp [hx, hge r rfl]
  fun_induction trimLeftW seqs x with
  | case1 x r hst hlt ih =>
    have hx : x ≠ [] := by rintro rfl; simp at hlt
    rw [trimLeftW, strip1_snoc_nl seqs hnl x hx, hst]
    simpa [hlt] using ih
  | case2 x r hst hge => exact stop x _ hst (fun _ h => by cases h; exact hge)
  | case3 x hst => exact stop x _ hst (fun _ h => by cases h)

theorem spaceSeqs_ne : ∀ q ∈ spaceSeqs, q ≠ [] := by decide
theorem spaceSeqs_nl : ∀ q ∈ spaceSeqs, '\n' ∈ q → q = ['\n'] := by decide
theorem spaceSeqs_strip_nl : strip1 spaceSeqs ['\n'] = some [] := by decide

theorem trimRight_snoc_nl (y : Str) : trimRight (y ++ ['\n']) = trimRight y := by
  -- the search passes the blank and the tab and stops at the third sequence, `\n` itself
  have h1 : strip1 (spaceSeqs.map List.reverse) ('\n' :: y.reverse) = some y.reverse := by
    simp [strip1, spaceSeqs, List.find?, List.isPrefixOf, b]
  simp only [trimRight, List.reverse_append, List.reverse_cons, List.reverse_nil, List.nil_append,
    List.singleton_append]
  rw [trimLeftW, h1]
  simp

theorem trimSpace_snoc_nl (x : Str) : trimSpace (x ++ ['\n']) = trimSpace x := by
  simp only [trimSpace, trimLeft, trimLeftW_snoc_nl spaceSeqs spaceSeqs_ne spaceSeqs_nl spaceSeqs_strip_nl x]
  split
  · rename_i h
    rw [h]
  · exact trimRight_snoc_nl _

/-- C07 (audit records): with or without its terminator a line splits into the same record type and
message — for every byte string -/
theorem audit_line (l : Str) : split (l ++ ['\n']) = split l := by
  have hidx : indexFrom msgToken (l ++ ['\n']) 0 = indexFrom msgToken l 0 :=
    indexFrom_snoc msgToken (by decide) '\n' (by decide) l 0
  simp only [split, hidx]
  cases hi : indexFrom msgToken l 0 with
  | none => rfl
  | some i =>
    have hb := (indexFrom_bound msgToken l 0 i hi).2
    have hlen : msgToken.length = 4 := by decide
    simp only
    split
    · rfl
    · rename_i hge
      have h5 : typeTokenLen = 5 := rfl
      rw [hlen] at hb ⊢
      have e1 : (l ++ ['\n']).drop typeTokenLen = l.drop typeTokenLen ++ ['\n'] :=
        List.drop_append_of_le_length (by rw [h5]; omega)
      have e2 : (l.drop typeTokenLen ++ ['\n']).take (i - 1 - typeTokenLen) =
          (l.drop typeTokenLen).take (i - 1 - typeTokenLen) :=
        List.take_append_of_le_length (by rw [List.length_drop, h5]; omega)
      have e3 : (l ++ ['\n']).drop (i + 4) = l.drop (i + 4) ++ ['\n'] :=
        List.drop_append_of_le_length (by omega)
      rw [e1, e2, e3, trimSpace_snoc_nl]

/-- composition with C12's framing theorem: record lines written to the audit pipe in ANY pieces reach the
parser as the lines themselves would — each delivered record splits exactly as its line does, in order -/
theorem audit_through_the_pipe (lines : List Str) (chunks : List Str)
    (hnl : ∀ l ∈ lines, '\n' ∉ l)
    (hc : chunks.flatten = (lines.map (· ++ ['\n'])).flatten) :
    (Pipe.run '\n' none chunks).1.map split = lines.map split := by
  rw [AM.C12.run_frames (fs := lines.map (· ++ ['\n']))
    (fun f hf => by obtain ⟨l, hl, rfl⟩ := List.mem_map.mp hf; exact ⟨l, rfl, hnl l hl⟩) hc, List.map_map]
  exact List.map_congr_left fun l _ => audit_line l

/-- the statement is not vacuous: a real record splits into its type and message, terminator or not -/
example : (split ("type=LOGIN msg=audit(1.000:2): pid=7 ".toList ++ [b 0xc2, b 0xa0, '\n'])).map (·.1) =
    some "LOGIN".toList := by decide +kernel

end AM.C07A
