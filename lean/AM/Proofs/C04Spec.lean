import AM.Proofs.TrackerTrace
/-! C04, the judge and the theorem meet: the executable clause `Spec.Tracker.specSilence` holds of the model's own
observation for EVERY history and every write oracle. (Indices included: the LOGIN record and the login were delivered no later than the operation
that wrote the event.) -/
namespace AM.C04S
open AM.Tr AM.Spec.Tracker

/-- what `runTrace` attaches to an emitted event: the index of the operation that wrote it, by which time the
history prefix justifies it -/
def Tagged (h0 : List Op) (p : Emitted × Nat) : Prop := OutOk (h0.take (p.2 + 1)) p.1

theorem runTrace_tagged (h0 done rest : List Op) (st : St) (acc : List (Emitted × Nat))
    (hh : h0 = done ++ rest) (hi : Inv done st) (hacc : ∀ p ∈ acc, Tagged h0 p) :
    ∀ p ∈ (runTrace st done.length rest acc).1, Tagged h0 p :=
  runTrace_justified h0 done rest st acc hh hi hacc

theorem trace_tagged (failAt : Option Nat) (h : List Op) :
    ∀ p ∈ (runTrace { failAt := failAt } 0 h []).1, Tagged h p :=
  trace_justified failAt h

/-- **The judge accepts the model, for every history.** -/
theorem silence_spec_holds (failAt : Option Nat) (h : List Op) :
    specSilence h (modelObs failAt h).1 = none := by
  refine spec_of_trace fun p hp => ?_
  obtain ⟨_, hlg, _, r, hr, hty, hses, hpid, hne, hnu⟩ := trace_tagged failAt h p hp
  obtain ⟨i, hi, hrec⟩ := loginRecs_of_take hr hty (hses ▸ hne) (hses ▸ hnu)
  obtain ⟨j, hj, hlog⟩ := loginOps_of_take hlg
  have hs : ¬ ((actOf p).aid = [] || (actOf p).aid = strOf "unset") = true := by simp [hne, hnu]
  rw [if_neg hs, if_pos]
  refine List.any_eq_true.mpr ⟨(i, r), hrec, ?_⟩
  simp only [Bool.and_eq_true, decide_eq_true_eq]
  refine ⟨⟨hses, Nat.le_of_lt_succ hi⟩, List.any_eq_true.mpr ⟨(j, p.1.login), hlog, ?_⟩⟩
  simp only [Bool.and_eq_true, decide_eq_true_eq]
  exact ⟨⟨hpid.symm, Nat.le_of_lt_succ hj⟩, rfl⟩

end AM.C04S
