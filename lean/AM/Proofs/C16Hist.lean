import AM.Proofs.TrackerInv
import AM.Proofs.C16  -- the ticker constants
import AM.Proofs.C02  -- the examples' data
/-! C16 over histories. (A) An event neither held in some session's cache nor delivered again is never emitted: what a
cleanup discards is dropped, not emitted late. (B) A pending session that no cleanup cut-off overtakes keeps
collecting and is released completely, in order, by its login. (C) The other half first: a parked login that no
cut-off overtakes is used by the LOGIN record of its PID. -/
namespace AM.C16H
open AM.Tr

/-- `e` sits in some session's cache -/
def held (st : St) (e : AEvent) : Prop := ∃ s u, (s, u) ∈ st.sessions ∧ e ∈ u.cached

theorem held_of_sub {st st' : St} {e : AEvent}
    (h : ∀ s u, (s, u) ∈ st'.sessions → e ∈ u.cached → held st e) : held st' e → held st e := by
  rintro ⟨s, u, hm, he⟩; exact h s u hm he

theorem held_of_entry {st : St} {e : AEvent} {now : Time} {u : User} {L : List (Int × Login)} (hE : Entry st e now u L)
    {e' : AEvent} (he : e' ∈ u.cached) : held st e' := by
  cases hE with
  | tracked hlook => exact ⟨_, u, aLookup_mem hlook, he⟩
  | opened => cases he

theorem held_or_delivered {st st' : St} {op : Op} {err : Option Err} (hs : Step st op st' err) :
    (∃ new, st'.out = st.out ++ new ∧ ∀ em ∈ new, held st em.ev ∨ ∃ now, op = .audit em.ev now) ∧
    (∀ e, held st' e → held st e ∨ ∃ now, op = .audit e now) := by
  have nothing : ∃ new, st.out = st.out ++ new ∧ ∀ em ∈ new, held st em.ev ∨ ∃ now, op = .audit em.ev now :=
    ⟨[], by simp, by simp⟩
  have flushed : ∀ {st0 : St} {s u l extra close e}, held (st0.flush s u l extra close) e →
      st0.sessions = st.sessions → (∀ e ∈ u.cached, held st e) → held st e := by
    rintro st0 s u l extra close e ⟨s', u', hm, he⟩ h0 hu
    rcases St.mem_flush hm with ⟨hm, _⟩ | heq
    · exact ⟨s', u', h0 ▸ hm, he⟩
    · cases heq
      simp only at he
      split at he
      · cases he
      · exact hu e he
  cases hs with
  | skip | park | cleanLogins => exact ⟨nothing, fun e h => Or.inl h⟩
  | cleanSessions => exact ⟨nothing, fun e ⟨s, u, hm, he⟩ => Or.inl ⟨s, u, (List.mem_filter.mp hm).1, he⟩⟩
  | @release l s u more hv hf =>
    have hu : ∀ e ∈ u.cached, held st e := fun e he => ⟨s, u, (matched hf).1, he⟩
    exact ⟨⟨_, rfl, fun em hem => Or.inl (hu _ (by simpa using List.mem_of_mem_take (mem_under.mp hem).2))⟩,
      fun e h => Or.inl (flushed h rfl hu)⟩
  | @hold e now u L _ _ hE =>
    refine ⟨nothing, fun e' ⟨s, u', hm, he⟩ => ?_⟩
    rcases mem_aStore hm with heq | ⟨hm, _⟩
    · cases heq
      rcases List.mem_append.mp he with he | he
      · exact Or.inl (held_of_entry hE he)
      · exact Or.inr ⟨now, by rw [List.mem_singleton.mp he]⟩
    · exact Or.inl ⟨s, u', hm, he⟩
  | @emit e now u L l _ _ hE =>
    refine ⟨⟨_, rfl, fun em hem => ?_⟩, fun e h => Or.inl (flushed h rfl (fun _ => held_of_entry hE))⟩
    rcases List.mem_append.mp (List.mem_of_mem_take (mem_under.mp hem).2) with he | he
    · exact Or.inl (held_of_entry hE he)
    · exact Or.inr ⟨now, by rw [List.mem_singleton.mp he]⟩

/-- one step: every newly emitted event was held or is the record being delivered; everything held afterwards was
held before or is the record being delivered -/
theorem step_from (st : St) (op : Op) :
    (∃ new, (step st op).1.out = st.out ++ new ∧
      ∀ em ∈ new, held st em.ev ∨ ∃ now, op = .audit em.ev now) ∧
    (∀ e, held (step st op).1 e → held st e ∨ ∃ now, op = .audit e now) :=
  held_or_delivered (step_spec st op)

/-- `e` is delivered by one of the operations -/
def delivered (ops : List Op) (e : AEvent) : Prop := ∃ now, Op.audit e now ∈ ops

/-- **Neither held nor delivered: never emitted.** -/
theorem never_late (ops : List Op) : ∀ (st : St) (e : AEvent), ¬ held st e → ¬ delivered ops e →
    ∀ em ∈ (run st ops).1.out, em.ev = e → em ∈ st.out := by
  intro st e hnh hnd
  refine (run_induction_under (H := fun h => ¬ delivered h e)
    (I := fun _ st' => ¬ held st' e ∧ ∀ em ∈ st'.out, em.ev = e → em ∈ st.out)
    (fun a b hd ⟨now, hm⟩ => hd ⟨now, List.mem_append_left _ hm⟩) (fun h st' op hd ⟨hnh', hout⟩ => ?_)
    [] st ops ⟨hnh, fun em hem _ => hem⟩ hnd).2
  have hd1 : ¬ ∃ now, op = .audit e now := fun ⟨now, h1⟩ => hd ⟨now, by simp [h1]⟩
  obtain ⟨⟨new, ho, hn⟩, hh⟩ := step_from st' op
  refine ⟨fun h => (hh e h).elim hnh' hd1, fun em hem hev => ?_⟩
  rw [ho] at hem
  rcases List.mem_append.mp hem with hm | hm
  · exact hout em hm hev
  · exact ((hn em hm).elim (fun h => hnh' (hev ▸ h)) (fun h => hd1 (hev ▸ h))).elim

/-- **Dropped, not emitted late**: a pending session older than the cut-off is discarded by the cleanup, and — in a
state where a cached event is held by its own session only (`Inv`) — none of its held events is emitted afterwards,
whatever follows, unless the very same record is delivered again. -/
theorem dropped_not_late (h : List Op) (st : St) (hi : Inv h st) (s : Str) (u : User) (t : Time)
    (hm : (s, u) ∈ st.sessions) (hnone : u.login = none) (hold : u.added < t)
    (e : AEvent) (he : e ∈ u.cached) (ops : List Op) (hnd : ¬ delivered ops e) :
    ∀ em ∈ (run (step st (.cleanSessions t)).1 ops).1.out, em.ev = e → em ∈ st.out := by
  have hnh : ¬ held (step st (.cleanSessions t)).1 e := by
    rintro ⟨s', u', hm', he'⟩
    have hm0 := (List.mem_filter.mp hm').1
    -- a held event is held by its own session only, and that one is discarded
    cases (hi.cachedOk s' u' e hm0 he').1.symm.trans (hi.cachedOk s u e hm he).1
    cases mem_unique hi.uniqS hm0 hm
    have := (List.mem_filter.mp hm').2
    simp [hnone, hold] at this
  intro em hem hev
  exact never_late ops _ e hnh hnd em hem hev

/-- session `s` is pending: opened by PID `p` at `a`, no login yet, holding `c`; no other tracked session was
opened by `p` -/
structure Waiting (st : St) (s : Str) (p : Int) (a : Time) (c : List AEvent) : Prop where
  nofail : st.failAt = none
  uniq : aUnique st.sessions
  ne1 : s ≠ []
  ne2 : s ≠ strOf "unset"
  mem : ∃ u, (s, u) ∈ st.sessions ∧ u.login = none ∧ u.srcPID = p ∧ u.added = a ∧ u.cached = c
  only : ∀ s' u', (s', u') ∈ st.sessions → u'.srcPID = p → s' = s

/-- what may happen while the session waits: cleanups whose cut-off does not overtake the session's stamp, logins
of other PIDs, records of this session, records of other sessions (a LOGIN record among them not under PID `p`) -/
def Quiet (s : Str) (p : Int) (a : Time) : Op → Prop
  | .cleanSessions t => t ≤ a
  | .cleanLogins _ => True
  | .remoteLogin l => l.pid ≠ p
  | .audit e _ => e.ses = s ∨ (e.typ = .login → atoi e.pidTok ≠ some p)

def recOf (s : Str) : Op → List AEvent
  | .audit e _ => if e.ses = s then [e] else []
  | _ => []

theorem recOf_of_ne {s : Str} {op : Op} (h : ∀ e now, op = .audit e now → e.ses ≠ s) : recOf s op = [] := by
  cases op with
  | audit e now => simp [recOf, h e now rfl]
  | _ => rfl

theorem recOf_self (e : AEvent) (now : Time) : recOf e.ses (.audit e now) = [e] := by simp [recOf]

theorem waiting_upd {st st' : St} {s : Str} {p : Int} {a : Time} {c : List AEvent} (hw : Waiting st s p a c)
    (hf : st'.failAt = none) (k : Str) (hk : k ≠ s)
    (hs : st'.sessions = aErase k st.sessions ∨ ∃ v, st'.sessions = aStore k v st.sessions ∧ v.srcPID ≠ p) :
    Waiting st' s p a c := by
  obtain ⟨u, hm, h1, h2, h3, h4⟩ := hw.mem
  rcases hs with hs | ⟨v, hs, hv⟩
  · refine ⟨hf, by rw [hs]; exact aUnique_erase hw.uniq, hw.ne1, hw.ne2,
      ⟨u, by rw [hs]; exact mem_aErase_of hm (Ne.symm hk), h1, h2, h3, h4⟩, ?_⟩
    intro s' u' hm' hp
    rw [hs] at hm'
    exact hw.only s' u' (mem_aErase hm').1 hp
  · refine ⟨hf, by rw [hs]; exact aUnique_store hw.uniq, hw.ne1, hw.ne2,
      ⟨u, by rw [hs]; exact mem_aStore_of_ne hm (Ne.symm hk), h1, h2, h3, h4⟩, ?_⟩
    intro s' u' hm' hp
    rw [hs] at hm'
    rcases mem_aStore hm' with heq | ⟨hm'', _⟩
    · cases heq; exact absurd hp hv
    · exact hw.only s' u' hm'' hp

theorem Waiting.step {st st' : St} {s : Str} {p : Int} {a : Time} {c : List AEvent} {op : Op} {err : Option Err}
    (hw : Waiting st s p a c) (hs : Step st op st' err) (hq : Quiet s p a op) :
    Waiting st' s p a (c ++ recOf s op) := by
  obtain ⟨u, hm, hu1, hu2, hu3, hu4⟩ := hw.mem
  have hlook : aLookup s st.sessions = some u := aLookup_of_mem hw.uniq hm
  have other : ∀ {e now u0 L}, Entry st e now u0 L → Quiet s p a (.audit e now) → e.ses ≠ s → u0.srcPID ≠ p := by
    intro e now u0 L hE hq hes
    have hq : e.typ = .login → atoi e.pidTok ≠ some p := hq.resolve_left hes
    cases hE with
    | tracked hl0 => exact fun h => hes (hw.only _ _ (aLookup_mem hl0) h)
    | opened _ ht hp => exact fun h => hq ht (hp.trans (congrArg some h))
  -- only a held record of `s` adds to `c`; anything else works on another entry, or none
  have idle : (∀ e now, op = .audit e now → e.ses ≠ s) → Waiting st' s p a c →
      Waiting st' s p a (c ++ recOf s op) := fun h hw' => by rw [recOf_of_ne h, List.append_nil]; exact hw'
  cases hs with
  | skip hk =>
    refine idle (fun e now hop hes => ?_) hw
    subst hop
    cases hk with
    | noSession hno => exact hno.elim (fun h1 => hw.ne1 (hes ▸ h1)) (fun h1 => hw.ne2 (hes ▸ h1))
    | stray _ _ hl0 | badPid _ _ hl0 => rw [hes, hlook] at hl0; cases hl0
  | park | cleanLogins => exact idle nofun ⟨hw.nofail, hw.uniq, hw.ne1, hw.ne2, hw.mem, hw.only⟩
  | cleanSessions t =>
    refine idle nofun ⟨hw.nofail, aUnique_filter hw.uniq, hw.ne1, hw.ne2, ⟨u, ?_, hu1, hu2, hu3, hu4⟩,
      fun s' u' hm' hp => hw.only s' u' (List.mem_filter.mp hm').1 hp⟩
    have : ¬ u.added < t := by rw [hu3]; exact Int.not_lt.mpr hq
    exact List.mem_filter.mpr ⟨hm, by simp [this]⟩
  | @release l s0 u0 more hv hf =>
    obtain ⟨hm0, hpid0⟩ := matched hf
    have hne : s0 ≠ s := fun h => by
      subst h
      cases mem_unique hw.uniq hm0 hm
      exact hq (hpid0.symm.trans hu2)
    refine idle nofun (waiting_upd hw hw.nofail s0 hne ?_)
    rw [St.flush_sessions]
    split
    · exact Or.inl rfl
    · exact Or.inr ⟨_, rfl, hpid0 ▸ hq⟩
  | @hold e now u0 L h1 h2 hE hn =>
    by_cases hes : e.ses = s
    · subst hes
      cases hE.eq_of_mem hw.uniq hm
      rw [recOf_self]
      exact ⟨hw.nofail, aUnique_store hw.uniq, hw.ne1, hw.ne2, ⟨_, mem_aStore_self, hu1, hu2, hu3, by simp [hu4]⟩,
        fun s' u' hm' hp => (mem_aStore hm').elim (fun h => by cases h; rfl) (fun h => hw.only s' u' h.1 hp)⟩
    · refine idle (fun _ _ hop => by cases hop; exact hes) ?_
      exact waiting_upd hw hw.nofail e.ses hes (Or.inr ⟨_, rfl, (other hE hq hes : u0.srcPID ≠ p)⟩)
  | @emit e now u0 L l h1 h2 hE hl =>
    have hes : e.ses ≠ s := fun h => by
      subst h
      cases hE.eq_of_mem hw.uniq hm
      rw [hu1] at hl; cases hl
    refine idle (fun _ _ hop => by cases hop; exact hes) (waiting_upd hw hw.nofail e.ses hes ?_)
    rw [St.flush_sessions]
    split
    · exact Or.inl rfl
    · exact Or.inr ⟨_, rfl, (other hE hq hes : u0.srcPID ≠ p)⟩

def recsIn (s : Str) (ops : List Op) : List AEvent := ops.flatMap (recOf s)

theorem recsIn_nil (s : Str) : recsIn s [] = [] := rfl

theorem recsIn_snoc (s : Str) (h : List Op) (op : Op) : recsIn s (h ++ [op]) = recsIn s h ++ recOf s op := by
  simp [recsIn]

theorem waiting_run (ops : List Op) : ∀ (st : St) (c : List AEvent) (s : Str) (p : Int) (a : Time),
    Waiting st s p a c → (∀ op ∈ ops, Quiet s p a op) → (run st ops).2 = none →
    Waiting (run st ops).1 s p a (c ++ recsIn s ops) := by
  intro st c s p a hw hq hok
  have := run_induction_under (H := fun h => ∀ op ∈ h, Quiet s p a op)
    (I := fun h st' => Waiting st' s p a (c ++ recsIn s h))
    (fun _ _ hq o ho => hq o (List.mem_append_left _ ho))
    (fun h st' op hq hI => by
      simpa [recsIn_snoc, List.append_assoc] using hI.step (step_spec st' op) (hq op (by simp)))
    [] st ops (by simpa [recsIn_nil] using hw) hq
  rwa [executed_of_ok st ops hok] at this

/-- **Within the window: always correlated, everything released, in order.** While session `s` (opened by PID `p`
at `a`) waits, let anything happen that `Quiet` allows — in particular cleanups with cut-offs up to `a`. Then the
login of `p` releases exactly what was held plus every record of `s` delivered meanwhile, in order, under its
identity, without an error. -/
theorem correlated_within_window (st : St) (s : Str) (p : Int) (a : Time) (c : List AEvent) (mid : List Op)
    (l : Login) (hw : Waiting st s p a c) (hq : ∀ op ∈ mid, Quiet s p a op) (hok : (run st mid).2 = none)
    (hv : l.valid = true) (hp : l.pid = p) :
    let st1 := (run st mid).1
    (step st1 (.remoteLogin l)).2 = none ∧
    (step st1 (.remoteLogin l)).1.out = st1.out ++ (c ++ recsIn s mid).map (fun e => ⟨e, l⟩) := by
  intro st1
  have hw1 : Waiting st1 s p a (c ++ recsIn s mid) := waiting_run mid st c s p a hw hq hok
  obtain ⟨u, hm, _, hu2, _, hu4⟩ := hw1.mem
  cases hfil : st1.sessions.filter (fun x => x.2.srcPID == l.pid) with
  | nil => exact absurd (hu2.trans hp.symm) (unmatched hfil (s, u) hm)
  | cons x more =>
    obtain ⟨s0, u0⟩ := x
    obtain ⟨hm0, hpid0⟩ := matched hfil
    cases hw1.only s0 u0 hm0 (hpid0.trans hp)
    cases mem_unique hw1.uniq hm0 hm
    rw [(Step.release hv hfil).eq, St.flush_all (by exact hw1.nofail), St.writeErr_all hw1.nofail]
    simp [hu4, under_eq_map]

/-- with the daemon's ticker (period and cut-off distance regenerated from `Auditd.Read`): every tick up to one
minute after the session was stamped is `Quiet` -/
theorem daemon_ticks_are_quiet (s : Str) (p : Int) (a t₀ : Int) (j : Nat)
    (h : t₀ + j * AM.Gen.cleanupTickerNs ≤ a + 60000000000) :
    Quiet s p a (.cleanSessions (t₀ + j * AM.Gen.cleanupTickerNs - AM.Gen.cleanupCutoffBackNs)) := by
  show t₀ + j * AM.Gen.cleanupTickerNs - AM.Gen.cleanupCutoffBackNs ≤ a
  rw [AM.C16.daemon_constants.1] at h
  rw [AM.C16.daemon_constants.1, AM.C16.daemon_constants.2.1]
  omega

/-- the login `l` of PID `p` is parked and session `s` is not tracked -/
structure Parked (st : St) (s : Str) (p : Int) (l : Login) : Prop where
  nofail : st.failAt = none
  uniqL : aUnique st.logins
  mem : (p, l) ∈ st.logins
  fresh : ∀ u, (s, u) ∉ st.sessions

/-- what may happen while the login waits: cleanups whose cut-off does not overtake its stamp, logins of other PIDs,
records of other sessions (a LOGIN record among them not under PID `p`) -/
def QuietL (s : Str) (p : Int) (l : Login) : Op → Prop
  | .cleanLogins t => t ≤ l.loggedAt
  | .cleanSessions _ => True
  | .remoteLogin l' => l'.pid ≠ p
  | .audit e _ => e.ses ≠ s ∧ (e.typ = .login → atoi e.pidTok ≠ some p)

theorem Parked.step {st st' : St} {s : Str} {p : Int} {l : Login} {op : Op} {err : Option Err}
    (hw : Parked st s p l) (hs : Step st op st' err) (hq : QuietL s p l op) : Parked st' s p l := by
  have entry : ∀ {e now u L}, Entry st e now u L → QuietL s p l (.audit e now) → aUnique L ∧ (p, l) ∈ L := by
    intro e now u L hE hq
    cases hE with
    | tracked => exact ⟨hw.uniqL, hw.mem⟩
    | opened _ ht hp =>
      exact ⟨aUnique_erase hw.uniqL, mem_aErase_of hw.mem fun h => hq.2 ht (hp.trans (congrArg some h.symm))⟩
  have flushed : ∀ {st0 : St} {k u0 l0 extra close}, st0.sessions = st.sessions → k ≠ s →
      ∀ u, (s, u) ∉ (st0.flush k u0 l0 extra close).sessions := by
    intro st0 k u0 l0 extra close h0 hk u hm
    rcases St.mem_flush hm with ⟨hm, _⟩ | heq
    · exact hw.fresh u (h0 ▸ hm)
    · cases heq; exact hk rfl
  cases hs with
  | skip => exact hw
  | park =>
    exact ⟨hw.nofail, aUnique_store hw.uniqL, mem_aStore_of_ne hw.mem (Ne.symm hq), hw.fresh⟩
  | cleanSessions => exact ⟨hw.nofail, hw.uniqL, hw.mem, fun u hm => hw.fresh u (List.mem_filter.mp hm).1⟩
  | cleanLogins t =>
    have : ¬ l.loggedAt < t := Int.not_lt.mpr hq
    exact ⟨hw.nofail, aUnique_filter hw.uniqL, List.mem_filter.mpr ⟨hw.mem, by simp [this]⟩, hw.fresh⟩
  | @release l' s0 u0 more hv hf =>
    exact ⟨hw.nofail, hw.uniqL, hw.mem, flushed rfl fun h => hw.fresh u0 (h ▸ (matched hf).1)⟩
  | hold _ _ hE =>
    refine ⟨hw.nofail, (entry hE hq).1, (entry hE hq).2, fun u hm => ?_⟩
    rcases mem_aStore hm with heq | ⟨hm, _⟩
    · cases heq; exact hq.1 rfl
    · exact hw.fresh u hm
  | emit _ _ hE => exact ⟨hw.nofail, (entry hE hq).1, (entry hE hq).2, flushed rfl hq.1⟩

theorem parked_run (ops : List Op) : ∀ (st : St) (s : Str) (p : Int) (l : Login),
    Parked st s p l → (∀ op ∈ ops, QuietL s p l op) → Parked (run st ops).1 s p l := by
  intro st s p l hw hq
  exact run_induction_under (H := fun h => ∀ op ∈ h, QuietL s p l op) (I := fun _ st' => Parked st' s p l)
    (fun _ _ hq o ho => hq o (List.mem_append_left _ ho))
    (fun h st' op hq hI => hI.step (step_spec st' op) (hq op (by simp))) [] st ops hw hq

/-- **The login first, within the window**: while the login of PID `p` waits, let anything happen that `QuietL`
allows — in particular cleanups with cut-offs up to its stamp. Then the LOGIN record of a new session under PID `p`
is emitted at once under that login's identity, without an error. -/
theorem parked_login_used (st : St) (s : Str) (p : Int) (l : Login) (mid : List Op) (e : AEvent) (now : Time)
    (hw : Parked st s p l) (hq : ∀ op ∈ mid, QuietL s p l op)
    (hty : e.typ = .login) (hs : e.ses = s) (hne1 : s ≠ []) (hne2 : s ≠ strOf "unset") (hpid : atoi e.pidTok = some p) :
    let st1 := (run st mid).1
    (step st1 (.audit e now)).2 = none ∧ (step st1 (.audit e now)).1.out = st1.out ++ [⟨e, l⟩] := by
  intro st1
  have hw1 : Parked st1 s p l := parked_run mid st s p l hw hq
  have hE := Entry.opened (st := st1) (now := now) (aLookup_none_of (by rw [hs]; exact hw1.fresh)) hty hpid
  rw [aLookup_of_mem hw1.uniqL hw1.mem] at hE
  rw [(Step.emit (by rw [hs]; exact hne1) (by rw [hs]; exact hne2) hE rfl).eq, St.flush_all (by exact hw1.nofail),
    St.writeErr_all hw1.nofail]
  simp [under_eq_map]

/-! ### not vacuous: a pending session, things happening meanwhile, the login -/

def exSt : St := (run {} [.audit (C02.exEv 1 "5" .login "77") 10]).1

theorem exSt_sessions : exSt.sessions = [(strOf "5", ⟨10, 77, none, [C02.exEv 1 "5" .login "77"]⟩)] := by decide +kernel

example : Waiting exSt (strOf "5") 77 10 [C02.exEv 1 "5" .login "77"] := by
  refine ⟨by decide, by rw [exSt_sessions]; exact aUnique_store aUnique_nil, by decide, by decide,
    ⟨⟨10, 77, none, [C02.exEv 1 "5" .login "77"]⟩, by rw [exSt_sessions]; exact List.mem_cons_self, rfl, rfl, rfl, rfl⟩, ?_⟩
  intro s' u' hm _
  rw [exSt_sessions] at hm
  simp only [List.mem_singleton, Prod.mk.injEq] at hm
  exact hm.1

def exMid : List Op :=
  [ .audit (C02.exEv 2 "5" .other "77") 11, .cleanSessions 10, .audit (C02.exEv 3 "6" .login "88") 12,
    .remoteLogin { C02.exAlice with pid := 88 }, .cleanLogins 50, .audit (C02.exEv 4 "5" .credDisp "77") 13 ]

example : (∀ op ∈ exMid, Quiet (strOf "5") 77 10 op) ∧ (run exSt exMid).2 = none ∧
    recsIn (strOf "5") exMid = [C02.exEv 2 "5" .other "77", C02.exEv 4 "5" .credDisp "77"] := by
  refine ⟨?_, by decide +kernel, by decide +kernel⟩
  intro op hop
  simp only [exMid, List.mem_cons, List.not_mem_nil, or_false] at hop
  rcases hop with rfl | rfl | rfl | rfl | rfl | rfl
  · left; decide
  · show (10 : Int) ≤ 10; decide
  · right; intro _; decide
  · show (88 : Int) ≠ 77; decide
  · trivial
  · left; decide

end AM.C16H
