import AM.Gen.Templates
import AM.Proofs.C07
import AM.Proofs.C07Audit
/-! C07 stated for what the repository's own rsyslog configuration writes to the two pipes: the string
templates `sshd` and `auditlog` of `contrib/rsyslog/config/rsyslog.d` are regenerated from the working
tree (`AM.Gen.Templates`); a record produced by instantiating them is processed exactly as the
(PID, message) pair / the bare audit line. -/
namespace AM.C07T
open AM.Gen

/-- rsyslog's string template, instantiated (properties other than PROCID and msg do not occur) -/
def instantiate (t : List TplTok) (procid msg : Str) : Str :=
  t.flatMap fun
    | .procid => procid
    | .msg => msg
    | .prop _ => []
    | .lit s => s.toList

theorem sshd_template_shape (pid m : Str) :
    instantiate sshdTemplate pid m = pid ++ [' '] ++ m ++ ['\n'] := by
  simp [instantiate, sshdTemplate]

theorem auditlog_template_shape (pid m : Str) :
    instantiate auditlogTemplate pid m = m ++ ['\n'] := by
  simp [instantiate, auditlogTemplate]

/-- a line written by rsyslog with the repository's `sshd` template — `%msg%` being the message text
preceded by any number of blanks (rsyslog keeps the blank that follows the tag) — is processed exactly as
the sshd processor processes (PID, message) -/
theorem sshd_record (cfg : Sshd.Cfg) (pid pad msg : Str) (ok : Bool) (h : Sshd.Handoff)
    (hpid : ' ' ∉ pid) (hpad : ∀ c ∈ pad, c = ' ') (hmsg : msg.head? ≠ some ' ') :
    Syslog.process cfg (instantiate sshdTemplate pid (pad ++ msg)) ok h = Sshd.process cfg pid msg ok h := by
  rw [sshd_template_shape]
  have := AM.C07.framed_eq_direct cfg pid (' ' :: pad) msg ok h hpid (by simp)
    (by intro c hc; rcases List.mem_cons.mp hc with rfl | hc; rfl; exact hpad c hc) hmsg
  simpa [List.append_assoc] using this

/-- a line written with the repository's `auditlog` template parses as the bare audit line -/
theorem audit_record (pid l : Str) :
    AuditLine.split (instantiate auditlogTemplate pid l) = AuditLine.split l := by
  rw [auditlog_template_shape]; exact AM.C07A.audit_line l

end AM.C07T
