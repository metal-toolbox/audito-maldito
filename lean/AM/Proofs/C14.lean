import AM.Proofs.TrackerStep
/-! C14 — what a correlated event looks like (`render`: every field of the UserAction as a function of the login and the
coalesced audit event), and whose identity it carries: a stored login changes only through a `RemoteLogin` call. -/
namespace AM.C14
open AM.Tr

theorem render (l : Login) (e : AEvent) :
    let (ev, aid, ts) := toAuditEvent l e
    ev.typ = "UserAction" ∧ ev.component = "auditd" ∧ ts = e.ts ∧ aid = e.ses ∧
    (ev.outcome = "succeeded" ↔ e.result = strOf "success") ∧
    (ev.outcome = "succeeded" ∨ ev.outcome = "failed") ∧
    aLookup "action" ev.metaExtra = some e.action ∧ aLookup "how" ev.metaExtra = some e.how ∧
    aLookup "object" ev.metaExtra = some e.object ∧
    (e.args = [] → aLookup "process_args" ev.metaExtra = none) ∧
    (e.args ≠ [] → aLookup "process_args" ev.metaExtra = some (joinNul e.args)) ∧
    ev.subjects = l.subjects ∧ ev.srcType = l.srcType ∧ ev.srcValue = l.srcValue ∧
    ev.srcExtra = l.srcExtra ∧ ev.target = l.target ∧ ev.data = [] := by
  simp only [toAuditEvent, true_and, and_true]
  refine ⟨?_, ?_, ?_, ?_, ?_, ?_, ?_⟩
  · by_cases h : e.result = strOf "success" <;> simp [h]
  · by_cases h : e.result = strOf "success" <;> simp [h]
  · simp [aLookup]
  · simp [aLookup]
  · simp [aLookup]
  · intro h; simp [h, aLookup]
  · intro h
    cases ha : e.args with
    | nil => exact absurd ha h
    | cons x r => simp [aLookup]

theorem login_of_step {st st' : St} {op : Op} {err : Option Err} (hs : Step st op st' err) {s : Str} {u : User}
    {l : Login} (huniq : aUnique st.sessions) (hm : (s, u) ∈ st.sessions) (hl : u.login = some l) :
    ∀ u', (s, u') ∈ st'.sessions →
      u'.login = some l ∨ (∃ l', op = .remoteLogin l' ∧ u'.login = some l' ∧ u.srcPID = l'.pid) := by
  intro u' hm'
  have old : (s, u') ∈ st.sessions → u'.login = some l := fun h => mem_unique huniq hm h ▸ hl
  cases hs with
  | skip | park | cleanLogins => exact Or.inl (old hm')
  | cleanSessions => exact Or.inl (old (List.mem_filter.mp hm').1)
  | @release l' s0 u0 more hv hf =>
    obtain ⟨hm0, hpid⟩ := matched hf
    rcases St.mem_flush hm' with ⟨h, _⟩ | heq
    · exact Or.inl (old h)
    · cases heq
      cases mem_unique huniq hm hm0
      exact Or.inr ⟨l', rfl, rfl, hpid⟩
  | hold _ _ hE =>
    rcases mem_aStore hm' with heq | ⟨h, _⟩
    · cases heq; cases hE.eq_of_mem huniq hm; exact Or.inl hl
    · exact Or.inl (old h)
  | emit _ _ hE =>
    rcases St.mem_flush hm' with ⟨h, _⟩ | heq
    · exact Or.inl (old h)
    · cases heq; cases hE.eq_of_mem huniq hm; exact Or.inl hl

/-- A step that is not a `RemoteLogin` never alters a stored login: every session present before
and after the step keeps the login it had. -/
theorem login_unchanged (st : St) (op : Op) (s : Str) (u : User) (l : Login)
    (huniq : aUnique st.sessions) (hop : ∀ l', op ≠ .remoteLogin l')
    (hm : (s, u) ∈ st.sessions) (hl : u.login = some l) :
    ∀ u', (s, u') ∈ (step st op).1.sessions → u'.login = some l := by
  intro u' hm'
  rcases login_of_step (step_spec st op) huniq hm hl u' hm' with h | ⟨l', h, _⟩
  · exact h
  · exact absurd h (hop l')

end AM.C14
