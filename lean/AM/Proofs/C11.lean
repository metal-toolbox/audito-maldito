import AM.Proofs.SshdProvenance
/-! C11 — for EVERY line (no domain hypothesis): `ProcessEntry` neither panics nor leaves the
modelled fragment, returns an error only when the writer fails, emits at most one event and at
most one login, forwards a login only right after a succeeded event, and every event carries the
fixed target/component/type. All are corollaries of `Sshd.process_shape`. -/
namespace AM.C11
open AM.Sshd AM.Spec

theorem never_panics (cfg : Cfg) (pid line : Str) (ok : Bool) (h : Handoff) :
    (process cfg pid line ok h).res ≠ .panic ∧ (process cfg pid line ok h).res ≠ .unmodelled := by
  have hs := process_shape cfg pid line ok h
  generalize process cfg pid line ok h = o at hs
  cases hs <;> exact ⟨by simp, by simp⟩

theorem no_error_when_writer_works (cfg : Cfg) (pid line : Str) (h : Handoff) :
    (process cfg pid line true h).res = .nil := by
  have hs := process_shape cfg pid line true h
  generalize process cfg pid line true h = o at hs
  cases hs with
  | quiet => rfl
  | wfail _ _ _ _ _ hok => cases hok
  | wok => rfl
  | wsend => rfl

theorem at_most_one_event (cfg : Cfg) (pid line : Str) (ok : Bool) (h : Handoff) :
    (writes (process cfg pid line ok h)).length ≤ 1 := by
  rcases process_writes cfg pid line ok h with ⟨hw, _⟩ | ⟨_, _, _, _, _, hw, _⟩ <;> simp [hw]

theorem at_most_one_login (cfg : Cfg) (pid line : Str) (ok : Bool) (h : Handoff) :
    (sends (process cfg pid line ok h)).length ≤ 1 := by
  have hs := process_shape cfg pid line ok h
  generalize process cfg pid line ok h = o at hs
  cases hs with
  | quiet is _ => simp [sends_incs]
  | wfail => simp [sends]
  | wok => simp [sends]
  | wsend => simp [sends]

theorem login_only_with_succeeded_event (cfg : Cfg) (pid line : Str) (ok : Bool) (h : Handoff) :
    sendsFollowSuccess (process cfg pid line ok h).effs = true := by
  have hs := process_shape cfg pid line ok h
  generalize process cfg pid line ok h = o at hs
  cases hs with
  | quiet is _ => exact sendsFollowSuccess_incs is
  | wfail => simp [sendsFollowSuccess]
  | wok => simp [sendsFollowSuccess]
  | wsend _ _ _ _ _ _ _ _ _ hout => simp [sendsFollowSuccess, hout]

theorem fixed_fields (cfg : Cfg) (pid line : Str) (ok : Bool) (h : Handoff) (e : Ev) (b : Bool) :
    (e, b) ∈ writes (process cfg pid line ok h) →
      e.target = target cfg ∧ e.component = "sshd" ∧ e.typ = "UserLogin" := by
  intro hm
  obtain ⟨_, _, hfix, _, _⟩ := written_event hm
  exact hfix.1

/-- an event is emitted only if the line begins with one of the recognised message keywords -/
theorem keyword (cfg : Cfg) (pid line : Str) (ok : Bool) (h : Handoff) :
    writes (process cfg pid line ok h) ≠ [] → hasKeyword line = true :=
  C11P.keyword cfg pid line ok h

/-- the fixed keyword list of the property covers the dispatch table regenerated from the source -/
theorem keywords_cover : ∀ c ∈ AM.Gen.dispatch,
    (∃ s, c.cond = .pfx s ∧ s ∈ keywords) ∨
    (∃ p l is, c.cond = .re p ∧ p.anchS = true ∧ p.items = .lit l :: is ∧ l ∈ keywords) := by
  intro c hc
  obtain ⟨k, hk, hkw⟩ := dispatch_heads c hc
  rcases AM.Gen.Cond.head_spec hk with h | ⟨p, is, h1, h2, h3⟩
  · exact Or.inl ⟨k, h, hkw⟩
  · exact Or.inr ⟨p, k, is, h1, h2, h3, hkw⟩

/-- every field value extracted into the event is a verbatim substring of the line (or what
`encoding/json` makes of one), or a fixed placeholder / the PID token / node name / machine id -/
theorem provenance (cfg : Cfg) (pid line : Str) (ok : Bool) (h : Handoff) (e : Ev) (b : Bool) :
    (e, b) ∈ writes (process cfg pid line ok h) →
      ∀ v ∈ evValues e, v ∈ placeholders cfg pid ∨ ∃ t, t <:+: line ∧ (v = t ∨ v = jsonCoerce t) :=
  C11P.provenance cfg pid line ok h e b

/-- the executable statement of C11 (the one evaluated on the implementation's observations)
holds on the model for every line and every PID token -/
theorem spec_holds (cfg : Cfg) (pid line : Str) (h : Handoff) :
    specC11 cfg pid line true (process cfg pid line true h) = none := by
  -- each shape is a literal list of effects: the clauses are evaluated on it; `Fixed` answers provenance
  have hs := process_shape cfg pid line true h
  generalize process cfg pid line true h = o at hs
  cases hs with
  | quiet is hq => simp [specC11, writes_incs, sends_incs, sendsFollowSuccess_incs]
  | wfail _ _ _ _ _ hok => cases hok
  | wok m oc e hfix hl =>
    simpa [specC11, writes, sends, sendsFollowSuccess, hl.2.2.2, hfix.1] using C11P.provB_of_fixed hfix
  | wsend m oc e n c hfix hl _ _ hout =>
    simpa [specC11, writes, sends, sendsFollowSuccess, hl.2.2.2, hfix.1, hout] using C11P.provB_of_fixed hfix

end AM.C11
