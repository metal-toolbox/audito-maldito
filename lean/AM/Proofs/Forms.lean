import AM.Proofs.Forms.Blanks
import AM.Proofs.Forms.Separator
import AM.Proofs.Forms.PublicKey
/-! All 21 message forms together. The case split follows `Spec.inDomain`; a form whose entry function is
`simple p mk` is settled by its row and the `Forced` lemma of its family. A conjunct of the domain that a
`_forced` lemma binds to `_` is one the form is correct without. -/
namespace AM.Sshd
open AM.Spec

/-- the slice `logEntry[len("Certificate invalid: "):]` of the form's line is the reason (ANY bytes) -/
theorem certInvalid_reason (r : Str) :
    (if (s "Certificate invalid: " ++ r).length ≤ certInvalidPrefixLen then strOf "unknown reason"
      else (s "Certificate invalid: " ++ r).drop certInvalidPrefixLen) =
      (if r.isEmpty then s "unknown reason" else r) := by
  have hlen : (s "Certificate invalid: ").length = certInvalidPrefixLen := by decide
  rw [List.length_append, ← hlen, List.drop_left]
  cases r with
  | nil => simp [s_eq_strOf]
  | cons c t => rw [if_neg (by simp), if_neg (by simp)]

theorem certInvalid_process (cfg : Cfg) (pid : Str) {r : Str} (ok : Bool) (h : Handoff) :
    ∀ line, lineOf .certInvalid [r] = some line →
      some (process cfg pid line ok h) = expectedOut cfg pid .certInvalid [r] ok h := by
  have hp := process_row cfg pid ok h (.main 2 rfl rfl)
    (pfx_holds_append (l := s "Certificate invalid: ") r (by simp [Spec.s]))
  simp only [certificateInvalid, certInvalid_reason] at hp
  exact form_of_process rfl hp rfl

theorem form_correct (cfg : Cfg) (pid : Str) (f : Form) (fs : List Str) (ok : Bool) (h : Handoff)
    (hd : inDomain f fs = true) (hpid : f.accepted = true → ∃ n, atoi pid = some n) :
    ∀ line, lineOf f fs = some line →
      some (process cfg pid line ok h) = expectedOut cfg pid f fs ok h := by
  -- the form writes `<literal>.` as one string, the expression ends in `<literal>` and any byte
  have dot {x a b c : Str} (h : a ++ b = c) : some (x ++ c) = some (x ++ a ++ b) := by
    rw [← h, List.append_assoc]
  -- one goal per alternative of `inDomain`, in its order; `hd` is the alternative's body
  unfold inDomain at hd
  split at hd
  · exact acceptedKey_process cfg pid ok h hd (hpid rfl)
  · exact acceptedCert_process cfg pid ok h hd (hpid rfl)
  · exact acceptedPassword_process cfg pid ok h hd (hpid rfl)
  -- maxAuth (`port (.*)`), failedPassword (`port (\d+)`)
  · exact form_of_simple (.main 10 rfl rfl) rfl
      (fromPort_forced _ _ _ _ hd digit_any (Nat.zero_le _)) rfl rfl
  · exact form_of_simple (.main 13 rfl rfl) rfl
      (fromPort_forced _ _ _ _ hd (fun _ h => h) (Nat.le_refl _)) rfl rfl
  · exact certInvalid_process cfg pid ok h
  · simp only [Bool.and_eq_true, Bool.not_eq_true', List.isEmpty_eq_false_iff] at hd
    exact form_of_process rfl (invalidUser_line cfg pid _ _ _ ok h hd.1.1.1 hd.1.1.2 hd.1.2 hd.2) rfl
  -- notInAllowUsers, inDenyUsers, notInAnyGroup, groupInDenyGroups, groupNotInAllowGroups; two shell forms
  · exact form_of_simple (.user 0 rfl rfl) rfl (userFrom_forced hd) rfl rfl
  · exact form_of_simple (.user 3 rfl rfl) rfl (userFrom_forced hd) rfl rfl
  · exact form_of_simple (.user 4 rfl rfl) rfl (userFrom_forced hd) rfl rfl
  · exact form_of_simple (.user 5 rfl rfl) rfl (userFrom_forced hd) rfl rfl
  · exact form_of_simple (.user 6 rfl rfl) rfl (userFrom_forced hd) rfl rfl
  · exact form_of_simple (.user 1 rfl rfl) rfl (userShell_forced hd) rfl rfl
  · exact form_of_simple (.user 2 rfl rfl) rfl (userShell_forced hd) rfl rfl
  · exact form_of_simple (.main 5 rfl rfl) rfl (rootLoginRefused_forced hd) rfl rfl
  · exact form_of_simple (.main 6 rfl rfl) rfl (badOwner_forced hd) rfl rfl
  · exact form_of_simple (.main 7 rfl rfl) rfl (nastyPTR_forced hd) rfl rfl
  -- reverseMapping, doesNotMapBack
  · exact form_of_simple (.main 8 rfl rfl) rfl (reverseMapping_forced hd)
      (dot (by simp [Spec.s])) rfl
  · exact form_of_simple (.main 9 rfl rfl) rfl (doesNotMapBack_forced hd)
      (dot (by simp [Spec.s])) rfl
  -- revokedByFile, revokedErr: the separator is read off `hd`
  · exact form_of_simple (.main 11 rfl rfl) rfl (revoked_forced (by simp) (by decide) (by decide) hd) rfl rfl
  · exact form_of_simple (.main 12 rfl rfl) rfl (revoked_forced (by simp) (by decide) (by decide) hd) rfl rfl
  · cases hd

end AM.Sshd
