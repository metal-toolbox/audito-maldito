import AM.Model.Tracker
/-! What one operation of the session tracker does, said once: `Step st op st' err` lists the seven ways an operation
can go, each with the state it leaves and the facts that select it. Around it: the writer in closed form (`St.write`,
`writeAll_*`), `St.flush`, `run` as a fold (`executed`, `run_*`), `out_*`. Proofs about the tracker reason from these:
`audit`, `remoteLogin`, `writeAll` and `write1` are unfolded here only (`Step.eq`, the `writeAll_*` lemmas). -/
namespace AM.Tr

/-- how many of `k` write attempts succeed: all, or those before the one the oracle fails -/
def St.written (st : St) (k : Nat) : Nat :=
  match st.failAt with
  | none => k
  | some f => if st.writes ≤ f ∧ f < st.writes + k then f - st.writes else k

theorem St.written_le (st : St) (k : Nat) : st.written k ≤ k := by
  unfold St.written; split
  · exact Nat.le_refl _
  · split <;> omega

theorem St.written_all {st : St} (hf : st.failAt = none) (k : Nat) : st.written k = k := by
  simp [St.written, hf]

theorem St.written_mono (st : St) (k : Nat) : st.written k ≤ st.written (k + 1) := by
  unfold St.written
  split
  · omega
  · split <;> split <;> omega

theorem St.written_stuck {st : St} {k : Nat} (h : st.written k < k) : st.written (k + 1) = st.written k := by
  unfold St.written at h ⊢
  split at h
  · omega
  · split at h
    · rw [if_pos (by omega), if_pos ‹_›]
    · omega

def under (l : Login) (es : List AEvent) : List Emitted := es.map (Emitted.mk · l)

theorem mem_under {l : Login} {es : List AEvent} {em : Emitted} :
    em ∈ under l es ↔ em.login = l ∧ em.ev ∈ es := by
  obtain ⟨e, l'⟩ := em
  simp only [under, List.mem_map, Emitted.mk.injEq]
  exact ⟨fun ⟨a, ha, h1, h2⟩ => ⟨h2.symm, h1 ▸ ha⟩, fun ⟨h1, h2⟩ => ⟨e, h2, rfl, h1.symm⟩⟩

theorem under_eq_map (l : Login) (es : List AEvent) : under l es = es.map (fun e => ⟨e, l⟩) := rfl

theorem map_ev_under (l : Login) (es : List AEvent) : (under l es).map (·.ev) = es := by
  simp [under, Function.comp_def]

/-- `writes` counts attempts, and the failed one counts too: `+ 1` under the `min` -/
def St.write (st : St) (l : Login) (es : List AEvent) : St :=
  { st with
    writes := st.writes + min (st.written es.length + 1) es.length
    out := st.out ++ under l (es.take (st.written es.length)) }

theorem writeAll_eq (st : St) (l : Login) (es : List AEvent) :
    writeAll st l es = (st.write l es, decide (st.written es.length = es.length)) := by
  induction es generalizing st with
  | nil => simp [writeAll, St.write, under, Nat.le_antisymm (St.written_le st 0)]
  | cons e es ih =>
    by_cases hf : st.failAt = some st.writes
    · have h0 : st.written (es.length + 1) = 0 := by simp [St.written, hf]
      simp [writeAll, write1, hf, St.write, h0, under]
    · have h1 : st.written (es.length + 1) =
          St.written { st with writes := st.writes + 1, out := st.out ++ [⟨e, l⟩] } es.length + 1 := by
        unfold St.written
        cases hfa : st.failAt with
        | none => rfl
        | some f =>
          have : f ≠ st.writes := fun h => hf (by rw [hfa, h])
          simp only
          split <;> split <;> omega
      simp only [writeAll, write1, hf, if_false, ih]
      simp [St.write, under, h1, Nat.add_assoc, Nat.add_comm 1]
      omega

/-- what a sequence of writes of events from `es` under login `l` may do to the state: append
events paired with `l` to `out`, count; nothing else -/
structure Wrote (st st' : St) (l : Login) (es : List AEvent) : Prop where
  sessions : st'.sessions = st.sessions
  logins : st'.logins = st.logins
  failAt : st'.failAt = st.failAt
  ambiguous : st'.ambiguous = st.ambiguous
  out : ∃ new, st'.out = st.out ++ new ∧ ∀ em ∈ new, em.login = l ∧ em.ev ∈ es

theorem writeAll_wrote (st : St) (l : Login) (es : List AEvent) :
    Wrote st (writeAll st l es).1 l es := by
  rw [writeAll_eq]
  exact ⟨rfl, rfl, rfl, rfl, _, rfl, fun em hem =>
    ⟨(mem_under.mp hem).1, List.mem_of_mem_take (mem_under.mp hem).2⟩⟩

theorem writeAll_ok (st : St) (l : Login) (es : List AEvent) :
    (writeAll st l es).2 = true → (writeAll st l es).1.out = st.out ++ es.map (fun e => ⟨e, l⟩) := by
  rw [writeAll_eq]
  intro hn
  simp only [St.write, of_decide_eq_true hn, List.take_length, under_eq_map]

theorem writeAll_append (st : St) (l : Login) (es es' : List AEvent) :
    writeAll st l (es ++ es') =
      match writeAll st l es with
      | (st', true) => writeAll st' l es'
      | (st', false) => (st', false) := by
  induction es generalizing st with
  | nil => rfl
  | cons e es ih =>
    simp only [List.cons_append, writeAll]
    split
    · exact ih _
    · rfl

theorem writeAll_one (st : St) (l : Login) (e : AEvent) : writeAll st l [e] = write1 st l e := by
  simp only [writeAll]; split <;> simp_all

@[simp] theorem St.write_sessions (st : St) (l : Login) (es : List AEvent) : (st.write l es).sessions = st.sessions := rfl

/-- The queue `u.cached ++ extra` of session `s` goes to the writer under `l`; the session is then closed, or kept —
with its queue if the writer failed inside it. -/
def St.flush (st : St) (s : Str) (u : User) (l : Login) (extra : List AEvent) (close : Bool) : St :=
  { st.write l (u.cached ++ extra) with
    sessions :=
      if close then aErase s st.sessions
      else aStore s
        { u with cached := if u.cached.length ≤ st.written (u.cached ++ extra).length then [] else u.cached }
        st.sessions }

def St.writeErr (st : St) (es : List AEvent) : Option Err :=
  if st.written es.length = es.length then none else some .write

/-- the entry `audit st e now` works on and the login table it leaves: a new entry takes the login parked under its PID -/
inductive Entry (st : St) (e : AEvent) (now : Time) : User → List (Int × Login) → Prop
  | tracked {u} : aLookup e.ses st.sessions = some u → Entry st e now u st.logins
  | opened {p} : aLookup e.ses st.sessions = none → e.typ = .login → atoi e.pidTok = some p →
      Entry st e now ⟨now, p, aLookup p st.logins, []⟩ (aErase p st.logins)

theorem Entry.eq_of_mem {st : St} {e : AEvent} {now : Time} {u u' : User} {L : List (Int × Login)}
    (hE : Entry st e now u L) (hu : aUnique st.sessions) (hm : (e.ses, u') ∈ st.sessions) : u = u' := by
  cases hE with
  | tracked hlook => exact mem_unique hu (aLookup_mem hlook) hm
  | opened hlook => exact absurd rfl (aLookup_none hlook _ hm)

inductive Skip (st : St) : Op → Option Err → Prop
  | badLogin {l} : l.valid = false → Skip st (.remoteLogin l) (some .badLogin)
  | noSession {e now} : e.ses = [] ∨ e.ses = strOf "unset" → Skip st (.audit e now) none
  | stray {e now} : e.ses ≠ [] → e.ses ≠ strOf "unset" → aLookup e.ses st.sessions = none → e.typ ≠ .login →
      Skip st (.audit e now) none
  | badPid {e now} : e.ses ≠ [] → e.ses ≠ strOf "unset" → aLookup e.ses st.sessions = none → e.typ = .login →
      atoi e.pidTok = none → Skip st (.audit e now) (some .badPid)

/-- in `release` and `emit` the error is that of the queue `u.cached ++ extra` handed to `St.flush` (`extra = []` in
`release`) -/
inductive Step (st : St) : Op → St → Option Err → Prop
  | skip {op err} : Skip st op err → Step st op st err
  | park {l} : l.valid = true → st.sessions.filter (fun x => x.2.srcPID == l.pid) = [] →
      Step st (.remoteLogin l) { st with logins := aStore l.pid l st.logins } none
  | release {l s u more} : l.valid = true →
      st.sessions.filter (fun x => x.2.srcPID == l.pid) = (s, u) :: more →
      Step st (.remoteLogin l)
        (St.flush { st with ambiguous := st.ambiguous || !more.isEmpty } s { u with login := some l } l []
          (hasDisp u.cached))
        (st.writeErr (u.cached ++ []))
  | hold {e now u L} : e.ses ≠ [] → e.ses ≠ strOf "unset" → Entry st e now u L → u.login = none →
      Step st (.audit e now)
        { st with logins := L, sessions := aStore e.ses { u with cached := u.cached ++ [e] } st.sessions } none
  | emit {e now u L l} : e.ses ≠ [] → e.ses ≠ strOf "unset" → Entry st e now u L → u.login = some l →
      Step st (.audit e now) (St.flush { st with logins := L } e.ses u l [e] (e.typ = .credDisp))
        (st.writeErr (u.cached ++ [e]))
  | cleanSessions (t) :
      Step st (.cleanSessions t)
        { st with sessions := st.sessions.filter (fun p => !(p.2.login.isNone && p.2.added < t)) } none
  | cleanLogins (t) :
      Step st (.cleanLogins t) { st with logins := st.logins.filter (fun p => !(p.2.loggedAt < t)) } none

theorem matched {st : St} {l : Login} {s : Str} {u : User} {more : List (Str × User)}
    (hf : st.sessions.filter (fun x => x.2.srcPID == l.pid) = (s, u) :: more) :
    (s, u) ∈ st.sessions ∧ u.srcPID = l.pid := by
  have := List.mem_filter.mp (hf ▸ List.mem_cons_self : (s, u) ∈ st.sessions.filter _)
  exact ⟨this.1, by simpa using this.2⟩

theorem unmatched {st : St} {l : Login} (hf : st.sessions.filter (fun x => x.2.srcPID == l.pid) = []) :
    ∀ x ∈ st.sessions, x.2.srcPID ≠ l.pid :=
  fun x hx hc => by simpa [hc] using List.filter_eq_nil_iff.mp hf x hx

theorem Step.eq {st st' : St} {op : Op} {err : Option Err} (hs : Step st op st' err) : step st op = (st', err) := by
  cases hs with
  | skip hk =>
    cases hk with
    | badLogin hv => simp [step, remoteLogin, hv]
    | noSession hno => rcases hno with h | h <;> simp [step, audit, h]
    | stray h1 h2 hlook ht => simp [step, audit, h1, h2, hlook, ht]
    | badPid h1 h2 hlook ht hp => simp [step, audit, h1, h2, hlook, ht, hp]
  | park hv hf => simp [step, remoteLogin, hv, hf]
  | @release l s u more hv hf =>
    have hw : ∀ k, St.written { st with ambiguous := st.ambiguous || !more.isEmpty } k = st.written k := fun _ => rfl
    have hc : (u.cached.length ≤ st.written u.cached.length) = (st.written u.cached.length = u.cached.length) :=
      propext ⟨Nat.le_antisymm (St.written_le _ _), Nat.le_of_eq ∘ Eq.symm⟩
    simp [step, remoteLogin, hv, hf, writeAll_eq, St.flush, St.write, St.writeErr, hw, hc]
  | hold h1 h2 hE hn =>
    cases hE with
    | tracked hlook => simp [step, audit, h1, h2, hlook, hn]
    | opened hlook ht hp =>
      -- `hn` retyped as the look-up it is, for `simp` to rewrite `audit`'s match with it
      have hn : aLookup _ st.logins = none := hn
      simp [step, audit, h1, h2, hlook, ht, hp, hn, aErase_of_aLookup_none hn]
  | @emit e now u L l h1 h2 hE hl =>
    cases hE with
    | tracked hlook =>
      -- `audit` writes the queue, then the record; the rule writes both in one go: `hw` relates the two
      have hw := writeAll_append st l u.cached [e]
      rw [writeAll_eq st l (u.cached ++ [e]), writeAll_eq st l u.cached, List.length_append, List.length_singleton] at hw
      by_cases hc : st.written u.cached.length = u.cached.length
      · have hk : u.cached.length ≤ st.written (u.cached.length + 1) := by
          have := st.written_mono u.cached.length; omega
        simp only [hc, decide_true, writeAll_one] at hw
        simp [step, audit, h1, h2, hlook, hl, writeAll_eq, hc, ← hw, St.flush, St.writeErr, hk]
      · have hk : ¬ u.cached.length ≤ st.written (u.cached.length + 1) := by
          have hlt := Nat.lt_of_le_of_ne (St.written_le _ _) hc
          rw [St.written_stuck hlt]; omega
        simp only [hc, decide_false, Prod.mk.injEq, decide_eq_false_iff_not] at hw
        -- `simp` spells the stored `u` out with `hl` rewritten into it: `hu` folds it back
        have hu : ({ u with login := some l } : User) = u := by cases u; simp_all
        simp [step, audit, h1, h2, hlook, hl, writeAll_eq, hc, hw.1, hw.2, St.flush, St.writeErr, hk, hu]
    | opened hlook ht hp =>
      have hl : aLookup _ st.logins = some l := hl
      -- a new entry's queue is empty: what the rule writes is `[e]`, `audit`'s `write1` read as `writeAll`
      simp [step, audit, h1, h2, hlook, ht, hp, hl, ← writeAll_one, writeAll_eq, St.flush, St.write, St.writeErr,
        St.written]
  | cleanSessions t => rfl
  | cleanLogins t => rfl

theorem step_spec (st : St) (op : Op) : Step st op (step st op).1 (step st op).2 := by
  suffices h : ∃ st' err, Step st op st' err by
    obtain ⟨st', err, hs⟩ := h
    rw [hs.eq]; exact hs
  cases op with
  | cleanSessions t => exact ⟨_, _, .cleanSessions t⟩
  | cleanLogins t => exact ⟨_, _, .cleanLogins t⟩
  | remoteLogin l =>
    cases hv : l.valid with
    | false => exact ⟨_, _, .skip (.badLogin hv)⟩
    | true =>
      cases hf : st.sessions.filter (fun x => x.2.srcPID == l.pid) with
      | nil => exact ⟨_, _, .park hv hf⟩
      | cons x more => exact ⟨_, _, .release (s := x.1) (u := x.2) hv hf⟩
  | audit e now =>
    by_cases h1 : e.ses = []
    · exact ⟨_, _, .skip (.noSession (.inl h1))⟩
    by_cases h2 : e.ses = strOf "unset"
    · exact ⟨_, _, .skip (.noSession (.inr h2))⟩
    have entry : ∀ {u L}, Entry st e now u L → ∃ st' err, Step st (.audit e now) st' err := fun {u L} hE => by
      cases hl : u.login with
      | none => exact ⟨_, _, .hold h1 h2 hE hl⟩
      | some l => exact ⟨_, _, .emit h1 h2 hE hl⟩
    cases hlook : aLookup e.ses st.sessions with
    | some u => exact entry (.tracked hlook)
    | none =>
      by_cases ht : e.typ = .login
      · cases hp : atoi e.pidTok with
        | none => exact ⟨_, _, .skip (.badPid h1 h2 hlook ht hp)⟩
        | some p => exact entry (.opened hlook ht hp)
      · exact ⟨_, _, .skip (.stray h1 h2 hlook ht)⟩

theorem St.flush_sessions (st : St) (s : Str) (u : User) (l : Login) (extra : List AEvent) (close : Bool) :
    (st.flush s u l extra close).sessions =
      if close then aErase s st.sessions
      else aStore s
        { u with cached := if u.cached.length ≤ st.written (u.cached ++ extra).length then [] else u.cached }
        st.sessions := rfl

theorem St.mem_flush {st : St} {s : Str} {u : User} {l : Login} {extra : List AEvent} {close : Bool}
    {x : Str × User} (hx : x ∈ (st.flush s u l extra close).sessions) :
    (x ∈ st.sessions ∧ x.1 ≠ s) ∨
      x = (s, { u with cached := if u.cached.length ≤ st.written (u.cached ++ extra).length then [] else u.cached }) := by
  rw [St.flush_sessions] at hx
  split at hx
  · exact Or.inl (mem_aErase hx)
  · exact (mem_aStore hx).symm

theorem St.mem_flush_ok {st : St} {s : Str} {u : User} {l : Login} {extra : List AEvent} {close : Bool}
    {x : Str × User} (hok : st.writeErr (u.cached ++ extra) = none) (hx : x ∈ (st.flush s u l extra close).sessions) :
    (x ∈ st.sessions ∧ x.1 ≠ s) ∨ x = (s, { u with cached := [] }) := by
  have hn : st.written (u.cached ++ extra).length = (u.cached ++ extra).length := by
    simp only [St.writeErr] at hok
    split at hok
    · assumption
    · cases hok
  rcases St.mem_flush hx with h | h
  · exact Or.inl h
  · rw [hn, List.length_append, if_pos (Nat.le_add_right _ _)] at h
    exact Or.inr h

theorem St.flush_all {st : St} {s : Str} {u : User} {l : Login} {extra : List AEvent} {close : Bool}
    (hf : st.failAt = none) :
    st.flush s u l extra close =
      { st with
        writes := st.writes + (u.cached ++ extra).length
        out := st.out ++ under l (u.cached ++ extra)
        sessions := if close then aErase s st.sessions else aStore s { u with cached := [] } st.sessions } := by
  simp only [St.flush, St.write, St.written_all hf, List.take_length]
  simp

theorem St.writeErr_all {st : St} {es : List AEvent} (hf : st.failAt = none) : st.writeErr es = none := by
  simp [St.writeErr, St.written_all hf]

theorem St.flush_out_all {st : St} {s : Str} {u : User} {l : Login} {extra : List AEvent} {close : Bool}
    (hf : st.failAt = none) : (st.flush s u l extra close).out = st.out ++ under l (u.cached ++ extra) := by
  rw [St.flush_all hf]

theorem Step.out {st st' : St} {op : Op} {err : Option Err} (hs : Step st op st' err) :
    ∃ new, st'.out = st.out ++ new := by
  cases hs
  case release => exact ⟨_, rfl⟩
  case emit => exact ⟨_, rfl⟩
  all_goals exact ⟨[], (List.append_nil _).symm⟩

theorem St.flush_closed {st : St} {s : Str} {u : User} {l : Login} {extra : List AEvent} {close : Bool}
    (hc : close = true) : aLookup s (st.flush s u l extra close).sessions = none := by
  rw [St.flush_sessions, if_pos hc, aLookup_aErase_self]

theorem St.flush_uniqS {st : St} {s : Str} {u : User} {l : Login} {extra : List AEvent} {close : Bool}
    (hu : aUnique st.sessions) : aUnique (st.flush s u l extra close).sessions := by
  rw [St.flush_sessions]
  split
  · exact aUnique_erase hu
  · exact aUnique_store hu

/-- the operations `run` executed: up to and including the first one that returned an error -/
def executed : St → List Op → List Op
  | _, [] => []
  | st, op :: ops =>
    match step st op with
    | (st', none) => op :: executed st' ops
    | (_, some _) => [op]

theorem executed_prefix (st : St) (ops : List Op) : executed st ops <+: ops := by
  induction ops generalizing st with
  | nil => simp [executed]
  | cons op ops ih =>
    simp only [executed]
    split
    · rename_i st' _
      exact (List.prefix_cons_inj op).mpr (ih st')
    · simp

theorem executed_of_ok (st : St) (ops : List Op) (h : (run st ops).2 = none) :
    executed st ops = ops := by
  induction ops generalizing st with
  | nil => simp [executed]
  | cons op ops ih =>
    simp only [run, executed] at h ⊢
    split
    · rename_i st' heq
      rw [heq] at h
      simp only at h
      rw [ih st' h]
    · rename_i st' e heq
      rw [heq] at h
      simp at h

theorem run_eq_foldl (st : St) (ops : List Op) :
    (run st ops).1 = (executed st ops).foldl (fun s op => (step s op).1) st := by
  induction ops generalizing st with
  | nil => rfl
  | cons op ops ih =>
    simp only [run, executed]
    split <;> rename_i heq
    · simp [ih, heq]
    · simp [heq]

/-- `I` is indexed by the history delivered so far; `hstep` covers whatever the operation returns, so write oracles and
the state returned with an error are included. -/
theorem run_induction {I : List Op → St → Prop}
    (hstep : ∀ h st op, I h st → I (h ++ [op]) (step st op).1)
    (done : List Op) (st : St) (ops : List Op) (hi : I done st) :
    I (done ++ executed st ops) (run st ops).1 :=
  run_eq_foldl st ops ▸ foldl_induction hstep done st _ hi

theorem run_induction_under {H : List Op → Prop} {I : List Op → St → Prop} (hpre : ∀ a b, H (a ++ b) → H a)
    (hstep : ∀ h st op, H (h ++ [op]) → I h st → I (h ++ [op]) (step st op).1)
    (done : List Op) (st : St) (ops : List Op) (hi : I done st) (hH : H (done ++ ops)) :
    I (done ++ executed st ops) (run st ops).1 := by
  obtain ⟨rest, hr⟩ := executed_prefix st ops
  refine run_induction (I := fun h st => H h → I h st) (fun h st op hI hh => hstep h st op hh (hI (hpre _ _ hh)))
    done st ops (fun _ => hi) (hpre _ rest ?_)
  rwa [List.append_assoc, hr]

theorem run_append (st : St) (h1 h2 : List Op) :
    run st (h1 ++ h2) =
      match run st h1 with
      | (st', none) => run st' h2
      | (st', some e) => (st', some e) := by
  induction h1 generalizing st with
  | nil => simp [run]
  | cons op ops ih =>
    simp only [List.cons_append, run]
    generalize step st op = r
    obtain ⟨st', e⟩ := r
    cases e with
    | none => exact ih st'
    | some e => rfl

theorem out_step (st : St) (op : Op) : ∃ new, (step st op).1.out = st.out ++ new :=
  (step_spec st op).out

theorem out_fold (st : St) (ops : List Op) :
    ∃ new, (ops.foldl (fun s op => (step s op).1) st).out = st.out ++ new :=
  foldl_induction (I := fun _ st' => ∃ new, st'.out = st.out ++ new)
    (fun _ st' op ⟨n1, h1⟩ => by
      obtain ⟨n2, h2⟩ := out_step st' op
      exact ⟨n1 ++ n2, by rw [h2, h1, List.append_assoc]⟩)
    [] st ops ⟨[], by simp⟩

theorem out_run (st : St) (ops : List Op) : ∃ new, (run st ops).1.out = st.out ++ new :=
  run_eq_foldl st ops ▸ out_fold st _

theorem out_run_prefix (st : St) (h1 h2 : List Op) :
    ∃ new, (run st (h1 ++ h2)).1.out = (run st h1).1.out ++ new := by
  rw [run_append]
  generalize run st h1 = r
  obtain ⟨st', e⟩ := r
  cases e with
  | none => exact out_run st' h2
  | some e => exact ⟨[], by simp⟩

end AM.Tr
