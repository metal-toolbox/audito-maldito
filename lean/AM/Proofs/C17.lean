import AM.Proofs.Forms.Blanks
/-! # C17 — client-chosen text cannot forge or suppress the record of a failed login

For the three messages in which sshd prints a client-supplied user name followed by the peer
address and port it observed, and for EVERY name without a newline — names with spaces, with
` from `, ` port `, with embedded well-formed ` from <addr> port <n>` fragments, the empty name —
every address without white space and every decimal port: the model (whose expressions are
regenerated from `openssh_regex.go` on every run) emits exactly one failed UserLogin whose source
address and port are the ones sshd appended and whose account is the name. -/
namespace AM.C17
open AM.Sshd AM.Spec

/-- the event of a failed attempt: account, source address and port as printed by sshd -/
def failedEv (cfg : Cfg) (pid name addr port : Str) : Ev :=
  loginEv cfg "failed" addr [("port", port)] (subj3 name pid)

theorem failed_password (cfg : Cfg) (pid name addr port ver : Str) (ok : Bool) (h : Handoff)
    (hn : noNL name = true) (ha : noSpace addr = true) (hp : digits port = true) (hv : alnums ver = true) :
    process cfg pid (s "Failed password for " ++ name ++ s " from " ++ addr ++ s " port " ++ port ++
        s " ssh" ++ ver) ok h =
      ⟨[.inc "unknown" "failure", .write (failedEv cfg pid name addr port) ok], if ok then .nil else .err⟩ := by
  -- elaborated before it meets the goal: `buildL ?p.items ?ps` against the line, row unknown, times out
  have := process_simple cfg pid ok h (.main 13 rfl rfl) rfl
    (fromPort_forced name addr port ver (by simp [hn, ha, hp, hv]) (fun _ h => h) (Nat.le_refl _))
  exact this

theorem max_attempts (cfg : Cfg) (pid name addr port ver : Str) (ok : Bool) (h : Handoff)
    (hn : noNL name = true) (ha : noSpace addr = true) (hp : digits port = true) (hv : alnums ver = true) :
    process cfg pid (s "maximum authentication attempts exceeded for " ++ name ++ s " from " ++ addr ++
        s " port " ++ port ++ s " ssh" ++ ver) ok h =
      ⟨[.inc "unknown" "failure", .write (failedEv cfg pid name addr port) ok], if ok then .nil else .err⟩ := by
  have := process_simple cfg pid ok h (.main 10 rfl rfl) rfl
    (fromPort_forced name addr port ver (by simp [hn, ha, hp, hv]) digit_any (Nat.zero_le _))
  exact this

theorem invalid_user (cfg : Cfg) (pid name addr port : Str) (ok : Bool) (h : Handoff)
    (hn : noNL name = true) (ha : noSpace addr = true) (ha0 : addr ≠ []) (hp : digits port = true) :
    process cfg pid (s "Invalid user " ++ name ++ s " from " ++ addr ++ s " port " ++ port) ok h =
      ⟨[.inc "unknown" "failure", .write (failedEv cfg pid name addr port) ok], if ok then .nil else .err⟩ :=
  invalidUser_line cfg pid name addr port ok h hn ha ha0 hp

/-- in particular the recorded source and port are the genuine ones and the attempt is not dropped -/
theorem source_is_genuine (cfg : Cfg) (pid name addr port : Str) :
    (failedEv cfg pid name addr port).srcValue = addr ∧
    aLookup "port" (failedEv cfg pid name addr port).srcExtra = some port ∧
    aLookup "loggedAs" (failedEv cfg pid name addr port).subjects = some name := by
  simp [failedEv, loginEv, subj3, aLookup]

/-- non-vacuity: the forging names of the property are in the domain -/
example : noNL "x from 6.6.6.6 port 1 from 7.7.7.7 port 2".toList = true ∧ noNL "foo bar".toList = true ∧
    noNL ([] : Str) = true ∧ noSpace "fe80::1%eth0".toList = true ∧ digits "65535".toList = true := by decide +kernel

end AM.C17
