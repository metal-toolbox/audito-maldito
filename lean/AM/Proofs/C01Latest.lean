import AM.Proofs.TrackerTrace
/-! C01, second reading (a PID used by several logins): if
at most one LOGIN-type record of the history names PID `p`, every event emitted under a login with PID `p` carries
the identity of the LAST valid login with PID `p` delivered when the event was written — a newer login replaces one
that is still waiting and re-binds the session an older one was bound to. For every history, write oracle and
cleanup placement; `Spec.Tracker.specLatest` is the executable form. Invariant: `InvL`; `trace_latest` states the claim at
the index an event was written, and `latest_login` is derived from it. -/
namespace AM.C01L
open AM.Tr

/-- the last valid login with PID `p` delivered by `h` -/
def lastValid (p : Int) (h : List Op) : Option Login :=
  ((loginsOf h).filter fun l => l.valid && l.pid == p).getLast?

/-- the LOGIN-type records of `h` that name PID `p` and carry a session -/
def isOpenerOf (p : Int) (e : AEvent) : Bool :=
  e.typ == .login && atoi e.pidTok == some p && !(e.ses = [] || e.ses = strOf "unset")

def openers (p : Int) (h : List Op) : List AEvent := (auditsOf h).filter (isOpenerOf p)

theorem lastValid_snoc (p : Int) (h : List Op) (op : Op) :
    lastValid p (h ++ [op]) =
      match op with
      | .remoteLogin l => if l.valid && l.pid == p then some l else lastValid p h
      | _ => lastValid p h := by
  cases op with
  | remoteLogin l =>
    simp only [lastValid, loginsOf_snoc, pickLogin, Option.toList, List.filter_append, List.filter_cons,
      List.filter_nil]
    split <;> simp
  | _ => simp [lastValid, loginsOf_snoc, pickLogin]

theorem openers_append (p : Int) (a b : List Op) : openers p (a ++ b) = openers p a ++ openers p b := by
  simp [openers, auditsOf_append]

theorem openers_nil_of_snoc {p : Int} {h : List Op} {op : Op} (ho : openers p (h ++ [op]) = []) : openers p h = [] :=
  (List.append_eq_nil_iff.mp (openers_append p h [op] ▸ ho)).1

structure InvL (p : Int) (h : List Op) (st : St) : Prop where
  parked : ∀ l, (p, l) ∈ st.logins → lastValid p h = some l
  bound : ∀ s u l, (s, u) ∈ st.sessions → u.srcPID = p → u.login = some l → lastValid p h = some l
  excl : ∀ l s u, (p, l) ∈ st.logins → (s, u) ∈ st.sessions → u.srcPID ≠ p
  fresh : openers p h = [] → ∀ s u, (s, u) ∈ st.sessions → u.srcPID ≠ p
  one : ∀ s u s' u', (s, u) ∈ st.sessions → (s', u') ∈ st.sessions → u.srcPID = p → u'.srcPID = p → s = s'

theorem invL_init (p : Int) (failAt : Option Nat) : InvL p [] { failAt := failAt } :=
  ⟨by simp, by simp, by simp, by simp, by simp⟩

/-- nothing new for PID `p` -/
theorem carry {p : Int} {h h' : List Op} {st st' : St} (hi : InvL p h st)
    (hs : ∀ s u', (s, u') ∈ st'.sessions →
      u'.srcPID ≠ p ∨ ∃ u, (s, u) ∈ st.sessions ∧ u'.srcPID = u.srcPID ∧ u'.login = u.login)
    (hl : ∀ l, (p, l) ∈ st'.logins → (p, l) ∈ st.logins)
    (hlv : lastValid p h' = lastValid p h) (hop : openers p h' = [] → openers p h = []) : InvL p h' st' := by
  have old : ∀ {s u'}, (s, u') ∈ st'.sessions → u'.srcPID = p →
      ∃ u, (s, u) ∈ st.sessions ∧ u.srcPID = p ∧ u'.login = u.login := fun hm hp =>
    ((hs _ _ hm).resolve_left fun h => h hp).imp fun u ⟨hm0, h1, h2⟩ => ⟨hm0, h1 ▸ hp, h2⟩
  refine ⟨fun l hm => hlv ▸ hi.parked l (hl l hm), ?_, ?_, ?_, ?_⟩
  · intro s u' l hm hp hb
    obtain ⟨u, hm0, h1, h2⟩ := old hm hp
    exact hlv ▸ hi.bound s u l hm0 h1 (h2 ▸ hb)
  · intro l s u' hml hm hp
    obtain ⟨u, hm0, h1, _⟩ := old hm hp
    exact hi.excl l s u (hl l hml) hm0 h1
  · intro ho s u' hm hp
    obtain ⟨u, hm0, h1, _⟩ := old hm hp
    exact hi.fresh (hop ho) s u hm0 h1
  · intro s u s' u' hm hm' hp hp'
    obtain ⟨a, ha, h1, _⟩ := old hm hp
    obtain ⟨b, hb, h2, _⟩ := old hm' hp'
    exact hi.one s a s' b ha hb h1 h2

theorem shrink {p : Int} {h h' : List Op} {st st' : St} (hi : InvL p h st)
    (hs : ∀ x ∈ st'.sessions, x ∈ st.sessions) (hl : ∀ x ∈ st'.logins, x ∈ st.logins)
    (hlv : lastValid p h' = lastValid p h) (hop : openers p h' = [] → openers p h = []) : InvL p h' st' :=
  carry hi (fun _ u hm => Or.inr ⟨u, hs _ hm, rfl, rfl⟩) (fun _ hm => hl _ hm) hlv hop

theorem InvL.entry {p : Int} {h : List Op} {st st' : St} {e : AEvent} {now : Time} {u : User} {L : List (Int × Login)}
    (hi : InvL p h st) (hu : (openers p (h ++ [.audit e now])).length ≤ 1) (h1 : e.ses ≠ []) (h2 : e.ses ≠ strOf "unset")
    (hE : Entry st e now u L) (hl : st'.logins = L)
    (hs : ∀ x ∈ st'.sessions, x ∈ st.sessions ∨ ∃ c, x = (e.ses, { u with cached := c })) :
    InvL p (h ++ [.audit e now]) st' := by
  have hlv : lastValid p (h ++ [.audit e now]) = lastValid p h := lastValid_snoc p h _
  cases hE with
  | tracked hlook =>
    refine carry hi (fun s2 u2 h2 => Or.inr ?_) (fun _ hx => hl ▸ hx) hlv openers_nil_of_snoc
    rcases hs _ h2 with hin | ⟨c, heq⟩
    · exact ⟨u2, hin, rfl, rfl⟩
    · cases heq; exact ⟨u, aLookup_mem hlook, rfl, rfl⟩
  | @opened q hlook ht hq =>
    have hl' : ∀ x ∈ st'.logins, x ∈ st.logins ∧ x.1 ≠ q := fun x hx => mem_aErase (hl ▸ hx)
    have hs' : ∀ x ∈ st'.sessions,
        x ∈ st.sessions ∨ (x.1 = e.ses ∧ x.2.srcPID = q ∧ x.2.login = aLookup q st.logins) :=
      fun x hx => (hs x hx).imp id fun ⟨c, heq⟩ => heq ▸ ⟨rfl, rfl, rfl⟩
    by_cases hqp : q = p
    · subst hqp
      -- one opener of `q`, one session of `q`: `e` is that opener, so no session had PID `q` before it (`fresh`)
      have hop : openers q (h ++ [.audit e now]) = openers q h ++ [e] := by
        simp [openers, auditsOf_snoc, pickAudit, isOpenerOf, ht, hq, h1, h2]
      have nobody : ∀ s u, (s, u) ∈ st.sessions → u.srcPID ≠ q :=
        hi.fresh (List.eq_nil_of_length_eq_zero (by rw [hop, List.length_append, List.length_singleton] at hu; omega))
      refine ⟨fun l hm => absurd rfl (hl' _ hm).2, fun s u l hm hp hb => ?_,
        fun l _ _ hml => absurd rfl (hl' _ hml).2, fun ho => by simp [hop] at ho, fun s u s' u' hm hm' hp hp' => ?_⟩
      · rcases hs' _ hm with hm | ⟨_, _, hlg⟩
        · exact absurd hp (nobody s u hm)
        · exact hlv ▸ hi.parked l (aLookup_mem (hlg ▸ hb))
      · rcases hs' _ hm with hm | ⟨hk, _, _⟩
        · exact absurd hp (nobody s u hm)
        · rcases hs' _ hm' with hm' | ⟨hk', _, _⟩
          · exact absurd hp' (nobody s' u' hm')
          · exact hk.trans hk'.symm
    · refine carry hi (fun s u' hm => ?_) (fun l hm => (hl' _ hm).1) hlv openers_nil_of_snoc
      exact (hs' _ hm).elim (fun hm => Or.inr ⟨u', hm, rfl, rfl⟩) fun ⟨_, hq', _⟩ => Or.inl (hq' ▸ hqp)

theorem InvL.step {p : Int} {h : List Op} {st st' : St} {op : Op} {err : Option Err} (hi : InvL p h st)
    (hs : Step st op st' err) (hu : (openers p (h ++ [op])).length ≤ 1) : InvL p (h ++ [op]) st' := by
  have hlv := lastValid_snoc p h op
  have hop : openers p (h ++ [op]) = [] → openers p h = [] := openers_nil_of_snoc
  cases hs with
  | skip hk =>
    refine shrink hi (fun _ hx => hx) (fun _ hx => hx) ?_ hop
    cases hk with
    | badLogin hv => simp [hlv, hv]
    | _ => exact hlv
  | cleanSessions => exact shrink hi (fun x hx => (List.mem_filter.mp hx).1) (fun x hx => hx) hlv hop
  | cleanLogins => exact shrink hi (fun x hx => hx) (fun x hx => (List.mem_filter.mp hx).1) hlv hop
  | @park l hv hf =>
    have nos : ∀ s u, (s, u) ∈ st.sessions → u.srcPID ≠ l.pid := fun s u hm => unmatched hf (s, u) hm
    simp only [hv, Bool.true_and] at hlv
    by_cases hp : l.pid = p
    · subst hp
      refine ⟨fun l0 hm => ?_, fun s u _ hm hpu => absurd hpu (nos s u hm), fun _ s u _ hm => nos s u hm,
        fun _ s u hm => nos s u hm, fun s u _ _ hm _ hpu => absurd hpu (nos s u hm)⟩
      rcases mem_aStore hm with heq | ⟨_, hne⟩
      · cases heq; simp [hlv]
      · exact absurd rfl hne
    · refine carry hi (fun _ u hm => Or.inr ⟨u, hm, rfl, rfl⟩) (fun l0 hm => ?_) (by simp [hlv, hp]) hop
      exact ((mem_aStore hm).resolve_left fun heq => hp (Prod.mk.inj heq).1.symm).1
  | @release l s u more hv hf =>
    obtain ⟨hm, hpid⟩ := matched hf
    simp only [hv, Bool.true_and] at hlv
    have back : ∀ s2 u2, (s2, u2) ∈ (St.flush _ s { u with login := some l } l [] (hasDisp u.cached)).sessions →
        ((s2, u2) ∈ st.sessions ∧ s2 ≠ s) ∨ (s2 = s ∧ u2.srcPID = u.srcPID ∧ u2.login = some l) := fun s2 u2 h2 =>
      (St.mem_flush h2).imp id fun heq => by cases heq; exact ⟨rfl, rfl, rfl⟩
    by_cases hp : l.pid = p
    · -- `s` is the one session of `p`, no login of `p` is parked, and `l` is now the last valid login of `p`
      subst hp
      have nop : ∀ l0, (l.pid, l0) ∉ st.logins := fun l0 hml => hi.excl l0 s u hml hm hpid
      have key : ∀ s2 (u2 : User), (s2, u2) ∈ _ → u2.srcPID = l.pid → s2 = s := fun s2 u2 h2 hp2 =>
        (back s2 u2 h2).elim (fun ⟨hin, _⟩ => hi.one s2 u2 s u hin hm hp2 hpid) (·.1)
      refine ⟨fun l0 hml => absurd hml (nop l0), fun s2 u2 l2 h2 hp2 hb => ?_, fun l0 _ _ hml => absurd hml (nop l0),
        fun ho s2 u2 h2 hp2 => hi.fresh (hop ho) s u hm hpid, fun s2 u2 s3 u3 h2 h3 hp2 hp3 =>
          (key s2 u2 h2 hp2).trans (key s3 u3 h3 hp3).symm⟩
      rcases back s2 u2 h2 with ⟨hin, hne⟩ | ⟨_, _, hlg⟩
      · exact absurd (hi.one s2 u2 s u hin hm hp2 hpid) hne
      · simp [hlv, ← hb, hlg]
    · refine carry hi (fun s2 u2 h2 => ?_) (fun _ hx => hx) (by simp [hlv, hp]) hop
      rcases back s2 u2 h2 with ⟨hin, _⟩ | ⟨rfl, h1, _⟩
      · exact Or.inr ⟨u2, hin, rfl, rfl⟩
      · exact Or.inl fun hc => hp (hpid.symm.trans (h1.symm.trans hc))
  | hold h1 h2 hE _ => exact hi.entry hu h1 h2 hE rfl fun x hx => (mem_aStore hx).symm.imp And.left fun heq => ⟨_, heq⟩
  | emit h1 h2 hE _ => exact hi.entry hu h1 h2 hE rfl fun x hx => (St.mem_flush hx).imp And.left fun heq => ⟨_, heq⟩

theorem emitted_latest {p : Int} {h : List Op} {st st' : St} {op : Op} {err : Option Err} (hs : Step st op st' err)
    (hI : Inv h st) (hi : InvL p h st) :
    ∃ new, st'.out = st.out ++ new ∧
      ∀ em ∈ new, em.login.pid = p → lastValid p (h ++ [op]) = some em.login := by
  have hlv := lastValid_snoc p h op
  have nothing : ∃ new, st.out = st.out ++ new ∧
      ∀ em ∈ new, em.login.pid = p → lastValid p (h ++ [op]) = some em.login := ⟨[], by simp, by simp⟩
  cases hs with
  | skip | park | hold | cleanSessions | cleanLogins => exact nothing
  | @release l s u more hv hf =>
    refine ⟨_, rfl, fun em hem hp => ?_⟩
    cases (mem_under.mp hem).1
    simp [hlv, hv, hp]
  | @emit e now u L l h1 h2 hE hl =>
    refine ⟨_, rfl, fun em hem hp => ?_⟩
    cases (mem_under.mp hem).1
    rw [hlv]
    cases hE with
    | tracked hlook =>
      have hm := aLookup_mem hlook
      exact hi.bound e.ses u em.login hm ((hI.bound e.ses u em.login hm hl).2.1 ▸ hp) hl
    | @opened q hlook ht hq =>
      have hm : (q, em.login) ∈ st.logins := aLookup_mem hl
      cases (hI.parked q em.login hm).2.1.symm.trans hp
      exact hi.parked em.login hm

theorem trace_latest (p : Int) (failAt : Option Nat) (h : List Op) (hu : (openers p h).length ≤ 1) :
    ∀ q ∈ (Spec.Tracker.runTrace { failAt := failAt } 0 h []).1, q.1.login.pid = p →
      lastValid p (h.take (q.2 + 1)) = some q.1.login := by
  have hle : ∀ n, (openers p (h.take n)).length ≤ 1 := fun n => by
    have := openers_append p (h.take n) (h.drop n)
    rw [List.take_append_drop] at this
    rw [this, List.length_append] at hu; omega
  refine Spec.Tracker.runTrace_induction h (I := fun n st => Inv (h.take n) st ∧ InvL p (h.take n) st)
    (Q := fun q => q.1.login.pid = p → lastValid p (h.take (q.2 + 1)) = some q.1.login)
    (fun n st op hop hI _ => ?_) (fun n st op hop hI => ?_) [] h _ [] rfl ⟨inv_init failAt, invL_init p failAt⟩ (by simp)
  · rw [take_succ_of_getElem? hop]
    exact ⟨hI.1.step (step_spec st op),
      hI.2.step (step_spec st op) (take_succ_of_getElem? hop ▸ hle (n + 1))⟩
  · show ∃ new : List Emitted, _ ∧ ∀ em ∈ new, em.login.pid = p → lastValid p (h.take (n + 1)) = some em.login
    rw [take_succ_of_getElem? hop]
    exact emitted_latest (step_spec st op) hI.1 hI.2

/-- C01 for PIDs used by several logins: if at most one LOGIN-type record of the history names PID `p`,
every event emitted under a login with PID `p` carries the identity of the last valid login with that
PID delivered when it was written — for every history and every write oracle -/
theorem latest_login (failAt : Option Nat) (h : List Op) (p : Int)
    (hu : (openers p h).length ≤ 1) :
    ∀ em ∈ (run { failAt := failAt } h).1.out, em.login.pid = p →
      ∃ h₁ op h₂, h = h₁ ++ op :: h₂ ∧ lastValid p (h₁ ++ [op]) = some em.login := by
  intro em hem hp
  obtain ⟨q, hq, rfl⟩ := List.mem_map.mp (Spec.Tracker.trace_events failAt h ▸ hem)
  have hl := trace_latest p failAt h hu q hq hp
  rcases List.eq_nil_or_concat (h.take (q.2 + 1)) with h0 | ⟨h₁, op, h1⟩
  · rw [h0] at hl; cases hl
  · rw [List.concat_eq_append] at h1
    exact ⟨h₁, op, h.drop (q.2 + 1), by rw [List.append_cons, ← h1, List.take_append_drop], h1 ▸ hl⟩

/-! ### not vacuous, and the statement bites: two logins under one PID -/

def mkLogin (pid : Int) (who : String) : Login :=
  { pid := pid, cred := strOf who, hasSource := true, subjects := [("userID", strOf who)],
    srcType := strOf "IP", srcValue := strOf "10.0.0.1", srcExtra := [], target := [], loggedAt := 0 }

def mkEv (ts : Int) (ses : String) (typ : EvType) (pid : String) : AEvent :=
  { ts := ts, ses := strOf ses, typ := typ, pidTok := strOf pid, result := strOf "success",
    action := [], how := [], object := [], args := [] }

/-- alice's login is left waiting (her session's records never arrive); bob's sshd gets the same PID;
then the LOGIN record with that PID opens session 1 -/
def demo : List Op :=
  [ .remoteLogin (mkLogin 77 "alice"), .remoteLogin (mkLogin 77 "bob"),
    .audit (mkEv 1 "1" .login "77") 1, .audit (mkEv 2 "1" .other "77") 2 ]

example : (openers 77 demo).length ≤ 1 := by decide +kernel

example : ((run {} demo).1.out.map fun em => em.login.cred) = [strOf "bob", strOf "bob"] := by decide +kernel

end AM.C01L
