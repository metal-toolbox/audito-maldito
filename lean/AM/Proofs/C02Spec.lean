import AM.Proofs.C02
import AM.Proofs.TrackerTrace
/-! C02, the judge and the theorem meet, for EVERY history (no hypothesis on LOGIN records, PIDs or cleanups): with a
writer that works, the events emitted for a session are some of its records, in the order delivered, none more often
than delivered — `emitted ++ held` is always a sublist of the session's records. That is the executable clause
`Spec.Tracker.specOrderOnce`. -/
namespace AM.C02S
open AM.Tr AM.C02 AM.Spec.Tracker

/-- the records of session `s` delivered by `h`, in processing order -/
def recsOf (h : List Op) (s : Str) : List AEvent := (C02.auditsOf h).filter fun e => e.ses = s

structure InvS (h : List Op) (st : St) : Prop where
  nofail : st.failAt = none
  cachedSes : ∀ s u, (s, u) ∈ st.sessions → ∀ e ∈ u.cached, e.ses = s
  subOut : ∀ s, (outOf st s).Sublist (recsOf h s)
  subAll : ∀ s u, (s, u) ∈ st.sessions → (outOf st s ++ u.cached).Sublist (recsOf h s)

theorem invS_init : InvS [] {} :=
  ⟨rfl, (fun s u hm => by cases hm), (fun s => by simp [outOf]), (fun s u hm => by cases hm)⟩

theorem recsOf_append (h h' : List Op) (s : Str) : recsOf (h ++ h') s = recsOf h s ++ recsOf h' s := by
  simp only [recsOf, C02.auditsOf_append, List.filter_append]

theorem recsOf_mono (h h' : List Op) (s : Str) : (recsOf h s).Sublist (recsOf (h ++ h') s) :=
  recsOf_append h h' s ▸ List.sublist_append_left _ _

theorem invS_same {h : List Op} {op : Op} {st st' : St} (hi : InvS h st)
    (hf : st'.failAt = none) (hout : st'.out = st.out) (hsub : st'.sessions.Sublist st.sessions) :
    InvS (h ++ [op]) st' := by
  refine ⟨hf, fun s u hm => hi.cachedSes s u (hsub.subset hm), ?_, ?_⟩
  · intro s; rw [outOf_same st st' s hout]; exact (hi.subOut s).trans (recsOf_mono h [op] s)
  · intro s u hm; rw [outOf_same st st' s hout]; exact (hi.subAll s u (hsub.subset hm)).trans (recsOf_mono h [op] s)

theorem invS_upd {h : List Op} {op : Op} {st st' : St} (hi : InvS h st) (s0 : Str) (new : List Emitted)
    (hf : st'.failAt = none) (hout : st'.out = st.out ++ new)
    (hes : ∀ em ∈ new, em.ev.ses = s0)
    (hs0 : (outOf st s0 ++ new.map (·.ev)).Sublist (recsOf (h ++ [op]) s0))
    (hmem : ∀ s u, (s, u) ∈ st'.sessions → ((s, u) ∈ st.sessions ∧ s ≠ s0) ∨
      (s = s0 ∧ (∀ e ∈ u.cached, e.ses = s0) ∧
        (outOf st s0 ++ new.map (·.ev) ++ u.cached).Sublist (recsOf (h ++ [op]) s0))) :
    InvS (h ++ [op]) st' := by
  refine ⟨hf, ?_, ?_, ?_⟩
  · intro s u hm
    rcases hmem s u hm with ⟨hm0, _⟩ | ⟨rfl, h1, _⟩
    · exact hi.cachedSes s u hm0
    · exact h1
  · intro s
    by_cases hs : s = s0
    · subst hs; rw [outOf_append_same hout hes]; exact hs0
    · rw [outOf_append_other hout hes hs]; exact (hi.subOut s).trans (recsOf_mono h [op] s)
  · intro s u hm
    rcases hmem s u hm with ⟨hm0, hne⟩ | ⟨rfl, _, h2⟩
    · rw [outOf_append_other hout hes hne]; exact (hi.subAll s u hm0).trans (recsOf_mono h [op] s)
    · rw [outOf_append_same hout hes]; exact h2

theorem InvS.entry {h : List Op} {st : St} {e : AEvent} {now : Time} {u : User} {L : List (Int × Login)}
    (hi : InvS h st) (hE : Entry st e now u L) :
    (∀ e' ∈ u.cached ++ [e], e'.ses = e.ses) ∧
    (outOf st e.ses ++ (u.cached ++ [e])).Sublist (recsOf (h ++ [.audit e now]) e.ses) := by
  have hr : recsOf (h ++ [Op.audit e now]) e.ses = recsOf h e.ses ++ [e] := by
    rw [recsOf_append]; simp [recsOf, C02.auditsOf]
  rw [hr, ← List.append_assoc]
  cases hE with
  | tracked hlook =>
    have hm := aLookup_mem hlook
    refine ⟨fun e' he' => ?_, (hi.subAll _ _ hm).append (List.Sublist.refl _)⟩
    rcases List.mem_append.mp he' with he' | he'
    · exact hi.cachedSes _ _ hm e' he'
    · rw [List.mem_singleton.mp he']
  | opened => exact ⟨by simp, by simpa using (hi.subOut e.ses).append (List.Sublist.refl [e])⟩

theorem InvS.step {h : List Op} {st st' : St} {op : Op} {err : Option Err} (hi : InvS h st)
    (hs : Step st op st' err) : InvS (h ++ [op]) st' := by
  have hf := hi.nofail
  -- as `C02.Inv.step`, but the ledger `emitted ++ held` need only stay a sublist: no hypothesis on the history
  cases hs with
  | skip | park | cleanLogins => exact invS_same hi hf rfl (List.Sublist.refl _)
  | cleanSessions => exact invS_same hi hf rfl List.filter_sublist
  | @release l s u more hv hfil =>
    have hm := (matched hfil).1
    have hall : (outOf st s ++ u.cached).Sublist (recsOf (h ++ [.remoteLogin l]) s) :=
      (hi.subAll s u hm).trans (recsOf_mono h _ s)
    refine invS_upd hi s _ hf (St.flush_out_all (by exact hf))
      (fun em hem => hi.cachedSes s u hm _ (by simpa using (mem_under.mp hem).2))
      (by simpa [map_ev_under] using hall) fun s' u' hm' => ?_
    rcases St.mem_flush_ok (St.writeErr_all (by exact hf)) hm' with hm' | heq
    · exact Or.inl hm'
    · cases heq; exact Or.inr ⟨rfl, by simp, by simpa [map_ev_under] using hall⟩
  | @hold e now u L h1 h2 hE hn =>
    obtain ⟨hc, hsub⟩ := hi.entry (h := h) hE
    refine invS_upd hi e.ses [] hf (by simp) (by simp)
      (by simpa using (hi.subOut e.ses).trans (recsOf_mono h _ _)) fun s' u' hm' => ?_
    rcases mem_aStore hm' with heq | hm'
    · cases heq; exact Or.inr ⟨rfl, hc, by simpa using hsub⟩
    · exact Or.inl hm'
  | @emit e now u L l h1 h2 hE hl =>
    obtain ⟨hc, hsub⟩ := hi.entry (h := h) hE
    refine invS_upd hi e.ses _ hf (St.flush_out_all (by exact hf))
      (fun em hem => hc _ (mem_under.mp hem).2)
      (by simpa [map_ev_under] using hsub) fun s' u' hm' => ?_
    rcases St.mem_flush_ok (St.writeErr_all (by exact hf)) hm' with hm' | heq
    · exact Or.inl hm'
    · cases heq; exact Or.inr ⟨rfl, by simp, by simpa [map_ev_under] using hsub⟩

theorem auditRecs_events (h : List Op) : (auditRecs h).map (·.2) = C02.auditsOf h := by
  rw [auditRecs_eq, picked_snd, C02.auditsOf_eq, Tr.auditsOf_eq]

/-- **The judge accepts the model, for every history.** -/
theorem order_spec_holds (h : List Op) : specOrderOnce h none (modelObs none h).1 = none := by
  obtain ⟨rest, hr⟩ := executed_prefix {} h
  have hi : InvS (executed {} h) (run {} h).1 := by
    simpa using run_induction (fun _ st op hi => InvS.step hi (step_spec st op)) [] {} h invS_init
  have hout := trace_events none h
  unfold specOrderOnce
  rw [if_neg (by simp)]
  apply List.findSome?_eq_none_iff.mpr
  intro a _
  have hgot : (((modelObs none h).1.acts.filter fun b => b.aid = a.aid).map (·.ts)) =
      (outOf (run {} h).1 a.aid).map (·.ts) := by
    rw [modelObs_acts, outOf, ← hout]
    simp only [List.filter_map, List.map_map]
    rfl
  have hsub : ((outOf (run {} h).1 a.aid).map (·.ts)).Sublist ((recsOf h a.aid).map (·.ts)) := by
    have := (hi.subOut a.aid).trans (recsOf_mono _ rest a.aid)
    rw [hr] at this
    exact this.map _
  have hrecs : ((auditRecs h).filterMap fun r => if r.2.ses = a.aid then some r.2.ts else none) =
      (recsOf h a.aid).map (·.ts) := by
    rw [recsOf, ← auditRecs_events]
    induction auditRecs h with
    | nil => rfl
    | cons r l ih => by_cases hs : r.2.ses = a.aid <;> simp [hs, ih]
  simp only [hgot, hrecs]
  rw [if_pos (List.isSublist_iff_sublist.mpr hsub)]

/-! ### the clause is not vacuous: it rejects a repeated or a reordered event (PID 77 used by two sessions, outside
`wfNoReuse`) -/

def exH : List Op :=
  [ .remoteLogin exAlice,
    .audit (exEv 1 "5" .login "77") 1,
    .audit (exEv 2 "5" .other "77") 2,
    .audit (exEv 3 "6" .login "77") 3,
    .audit (exEv 4 "5" .other "77") 4 ]

def obsOf (tss : List (Int × String)) : Obs :=
  ⟨tss.map fun p => ⟨{ typ := "UserAction", outcome := "succeeded", component := "auditd", srcType := [], srcValue := [], srcExtra := [], subjects := [], target := [], data := [], metaExtra := [] },
      strOf p.2, p.1, 0⟩, "nil", none⟩

example : wfNoReuse exH = false := by decide +kernel
example : specOrderOnce exH none (obsOf [(1, "5"), (2, "5"), (4, "5")]) = none := by decide +kernel
example : specOrderOnce exH none (obsOf [(1, "5"), (2, "5"), (2, "5"), (4, "5")]) =
    some "events-of-a-session-reordered-or-repeated" := by decide +kernel
example : specOrderOnce exH none (obsOf [(2, "5"), (1, "5"), (4, "5")]) =
    some "events-of-a-session-reordered-or-repeated" := by decide +kernel
example : specOrderOnce exH none (obsOf [(1, "5"), (3, "5")]) =
    some "events-of-a-session-reordered-or-repeated" := by decide +kernel

end AM.C02S
