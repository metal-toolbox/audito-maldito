import AM.Gen.Entries
import AM.Proofs.EntryTable
/-! The bodies of the sixteen simple entry functions of `processors/sshd` are TRANSLATED from the source on
every run (`AM.Gen.Entries`: which capture group, constant or configuration value goes into which field
of the one event the function writes). Each theorem below says that the hand-written model of that
function (`AM.Sshd.entryOf`, the one every other theorem of the sshd family is about) IS the
interpretation of the regenerated descriptor. A change of the wiring in the source — another group,
another constant, a dropped field, the outcome — regenerates a different descriptor and the equation no
longer type-checks. The four remaining functions (accepted public key / password, invalid certificate,
invalid user: `Atoi`, slicing, counters, the hand-off) stay hand-modelled; the list of what is not
translated is itself an obligation.
Each proof is `Option.some.inj (entryOf_dispatch i)` (or `entryOf_userDispatch i`), the row in which the name stands:
that the hand-written body IS `interp p d` is checked when that term meets the statement, as a unification of types. -/
namespace AM.C06E
open AM.Rx AM.Gen AM.Sshd

def EVal.eval (p : Pat) (cfg : Cfg) (pid : Str) (caps : List Str) : EVal → Str
  | .cap g => grp p caps g
  | .lit s => strOf s
  | .pid => pid
  | .node => cfg.node
  | .mid => cfg.mid

/-- the function a descriptor stands for: match the line with the expression, nothing without a match,
otherwise write the one event -/
def interp (p : Pat) (d : EntryDesc) : EntryFn :=
  simple p fun cfg pid caps =>
    let ev := EVal.eval p cfg pid caps
    { typ := d.typ, outcome := d.outcome, component := d.component,
      srcType := ev d.srcType, srcValue := ev d.srcValue,
      srcExtra := d.srcExtra.map fun kv => (kv.1, ev kv.2),
      subjects := d.subjects.map fun kv => (kv.1, ev kv.2),
      target := d.target.map fun kv => (kv.1, ev kv.2),
      data := [],
      metaExtra := d.metaExtra.map fun kv => (kv.1, ev kv.2) }

theorem entry_processNotInAllowUsersEntry :
    entryOf "processNotInAllowUsersEntry" = some (interp notInAllowUsersRE entry_processNotInAllowUsersEntry) :=
  Option.some.inj (entryOf_userDispatch 0)
theorem entry_userNonExistentShell :
    entryOf "userNonExistentShell" = some (interp userNonExistentShellRE entry_userNonExistentShell) :=
  Option.some.inj (entryOf_userDispatch 1)
theorem entry_userNonExecutableShell :
    entryOf "userNonExecutableShell" = some (interp userNonExecutableShellRE entry_userNonExecutableShell) :=
  Option.some.inj (entryOf_userDispatch 2)
theorem entry_userInDenyUsers :
    entryOf "userInDenyUsers" = some (interp userInDenyUsersRE entry_userInDenyUsers) :=
  Option.some.inj (entryOf_userDispatch 3)
theorem entry_userNotInAnyGroup :
    entryOf "userNotInAnyGroup" = some (interp userNotInAnyGroupRE entry_userNotInAnyGroup) :=
  Option.some.inj (entryOf_userDispatch 4)
theorem entry_userGroupInDenyGroups :
    entryOf "userGroupInDenyGroups" = some (interp userGroupInDenyGroupsRE entry_userGroupInDenyGroups) :=
  Option.some.inj (entryOf_userDispatch 5)
theorem entry_userGroupNotListedInAllowGroups :
    entryOf "userGroupNotListedInAllowGroups" =
      some (interp userGroupNotListedInAllowGroupsRE entry_userGroupNotListedInAllowGroups) :=
  Option.some.inj (entryOf_userDispatch 6)
theorem entry_rootLoginRefused :
    entryOf "rootLoginRefused" = some (interp rootLoginRefusedRE entry_rootLoginRefused) :=
  Option.some.inj (entryOf_dispatch 5)
theorem entry_badOwnerOrModesForHostFile :
    entryOf "badOwnerOrModesForHostFile" =
      some (interp badOwnerOrModesForHostFileRE entry_badOwnerOrModesForHostFile) :=
  Option.some.inj (entryOf_dispatch 6)
theorem entry_nastyPTRRecord :
    entryOf "nastyPTRRecord" = some (interp nastyPTRRecordRE entry_nastyPTRRecord) :=
  Option.some.inj (entryOf_dispatch 7)
theorem entry_reverseMappingCheckFailed :
    entryOf "reverseMappingCheckFailed" = some (interp reverseMappingCheckFailedRE entry_reverseMappingCheckFailed) :=
  Option.some.inj (entryOf_dispatch 8)
theorem entry_doesNotMapBackToAddr :
    entryOf "doesNotMapBackToAddr" = some (interp doesNotMapBackToAddrRE entry_doesNotMapBackToAddr) :=
  Option.some.inj (entryOf_dispatch 9)
theorem entry_maxAuthAttemptsExceeded :
    entryOf "maxAuthAttemptsExceeded" = some (interp maxAuthAttemptsExceededRE entry_maxAuthAttemptsExceeded) :=
  Option.some.inj (entryOf_dispatch 10)
theorem entry_revokedPublicKeyByFile :
    entryOf "revokedPublicKeyByFile" = some (interp revokedPublicKeyByFileRE entry_revokedPublicKeyByFile) :=
  Option.some.inj (entryOf_dispatch 11)
theorem entry_revokedPublicKeyByFileErr :
    entryOf "revokedPublicKeyByFileErr" = some (interp revokedPublicKeyByFileErrRE entry_revokedPublicKeyByFileErr) :=
  Option.some.inj (entryOf_dispatch 12)
theorem entry_failedPasswordAuth :
    entryOf "failedPasswordAuth" = some (interp failedPasswordAuthRE entry_failedPasswordAuth) :=
  Option.some.inj (entryOf_dispatch 13)

def mkEv (p : Pat) (d : EntryDesc) (cfg : Cfg) (pid : Str) (caps : List Str) : Ev :=
  let ev := EVal.eval p cfg pid caps
  { typ := d.typ, outcome := d.outcome, component := d.component,
    srcType := ev d.srcType, srcValue := ev d.srcValue,
    srcExtra := d.srcExtra.map fun kv => (kv.1, ev kv.2),
    subjects := d.subjects.map fun kv => (kv.1, ev kv.2),
    target := d.target.map fun kv => (kv.1, ev kv.2),
    data := [],
    metaExtra := d.metaExtra.map fun kv => (kv.1, ev kv.2) }

def capsOf (d : EntryDesc) : List String :=
  ([d.srcType, d.srcValue] ++ (d.srcExtra ++ d.subjects ++ d.target ++ d.metaExtra).map (·.2)).filterMap fun
    | .cap g => some g
    | _ => none

/-- the extended shape: the PID parsed first (nothing happens if it is not a number), captures that are taken
without a guard (an absent group is an index-out-of-range panic, before anything is counted or written), a counter
between the event and its write, and the hand-off of the login after a successful write -/
def interpX (p : Pat) (fn : String) (d : EntryDescX) : EntryFn := fun cfg pid line ok h =>
  let body : Int → Out := fun n =>
    match find p line with
    | none => ⟨[], .nil⟩
    | some (_, _, caps) =>
      if d.unguarded && !((capsOf d.base).all fun g => (p.group g caps).isSome) then ⟨[], .panic⟩ else
      let pre := if d.incFirst then incAt fn 0 else []
      match d.send with
      | none => let o := writeOnly (mkEv p d.base cfg pid caps) ok; ⟨pre ++ o.effs, o.res⟩
      | some c => writeAndSend pre (mkEv p d.base cfg pid caps) ok h n (EVal.eval p cfg pid caps c)
  if d.atoiFirst then
    match atoi pid with
    | none => ⟨[], .nil⟩
    | some n => body n
  else body 0

theorem entry_processAcceptedPasswordEntry :
    entryOf "processAcceptedPasswordEntry" =
      some (interpX passwordLoginRE "processAcceptedPasswordEntry" entryX_processAcceptedPasswordEntry) :=
  Option.some.inj (entryOf_dispatch 1)

theorem entry_processInvalidUserEntry :
    entryOf "processInvalidUserEntry" =
      some (interpX invalidUserRE "processInvalidUserEntry" entryX_processInvalidUserEntry) := by
  rw [show entryOf "processInvalidUserEntry" = some invalidUser from Option.some.inj (entryOf_dispatch 3)]
  congr 1
  funext cfg pid line ok h
  simp only [invalidUser, interpX, entryX_processInvalidUserEntry, Bool.false_eq_true, if_false, Bool.true_and, if_true]
  cases find invalidUserRE line with
  | none => rfl
  | some r =>
    obtain ⟨a, b, caps⟩ := r
    simp only
    cases hu : invalidUserRE.group "Username" caps <;> cases hs : invalidUserRE.group "Source" caps <;>
      cases hp : invalidUserRE.group "Port" caps <;>
      simp [capsOf, Gen.entry_processInvalidUserEntry, hu, hs, hp, mkEv, EVal.eval, grp, loginEv, target, subj3, unknown,
        writeOnly]

/-- every descriptor names the expression its function was paired with above -/
theorem entries_expressions :
    Gen.entries.map (fun x => (x.1, x.2.re)) =
      [("badOwnerOrModesForHostFile", "badOwnerOrModesForHostFileRE"), ("doesNotMapBackToAddr", "doesNotMapBackToAddrRE"),
       ("failedPasswordAuth", "failedPasswordAuthRE"), ("maxAuthAttemptsExceeded", "maxAuthAttemptsExceededRE"),
       ("nastyPTRRecord", "nastyPTRRecordRE"), ("processNotInAllowUsersEntry", "notInAllowUsersRE"),
       ("reverseMappingCheckFailed", "reverseMappingCheckFailedRE"), ("revokedPublicKeyByFile", "revokedPublicKeyByFileRE"),
       ("revokedPublicKeyByFileErr", "revokedPublicKeyByFileErrRE"), ("rootLoginRefused", "rootLoginRefusedRE"),
       ("userGroupInDenyGroups", "userGroupInDenyGroupsRE"), ("userGroupNotListedInAllowGroups", "userGroupNotListedInAllowGroupsRE"),
       ("userInDenyUsers", "userInDenyUsersRE"), ("userNonExecutableShell", "userNonExecutableShellRE"),
       ("userNonExistentShell", "userNonExistentShellRE"), ("userNotInAnyGroup", "userNotInAnyGroupRE")] := by rfl

/-- what is not translated: the two functions with slicing / certificate parsing / JSON extra data; and what is translated in the extended shape -/
theorem untranslated :
    Gen.untranslatedEntries.map (·.1) = ["processAcceptPublicKeyEntry", "processCertificateInvalidEntry"] ∧
    Gen.entriesX.map (fun x => (x.1, x.2.base.re)) =
      [("processAcceptedPasswordEntry", "passwordLoginRE"), ("processInvalidUserEntry", "invalidUserRE")] :=
  ⟨rfl, rfl⟩

end AM.C06E
