import AM.Model.Daemon
import AM.Proofs.C15Lift
import AM.Proofs.SshdShape
/-! # End to end: the assembled daemon (C10 and C01 at the level of `cmd/namedpipe.go`)

`AM.Model.Daemon` composes the sshd pipeline model (`Sshd.process` over the regenerated
expressions and dispatch tables), the hand-off and the audit-processor model with the tracker
inside. For EVERY schedule of the three parties, every content of the two pipes, every write
oracle on either side and every cancellation:

`end_to_end`: a UserAction in the output is preceded by the UserLogin event that the sshd pipeline
wrote for a record of the sshd pipe whose processing handed a login over (an accepted
authentication: the event's outcome is `succeeded`); the action carries exactly the subjects,
source and target of that event; the record's PID token parses to the PID of a LOGIN-type audit
event of the action's session that was handed to the correlator. -/
namespace AM.C10D
open AM.Dm
open AM.C15 (Lift Tracks loginsIn tracks_stepIn tracks_close)
open AM.Tr (loginsOf loginsOf_append isOpener)

theorem apStep_tracks (c : AP.Cfg) (st : Dm.St) (i : AP.In) : ∃ ops new,
    Tracks st.ap (apStep c st i).ap ops ∧ loginsOf ops = loginsIn [i] ∧
    (apStep c st i).ap.tr.out = st.ap.tr.out ++ new ∧ (apStep c st i).out = st.out ++ new.map .action := by
  obtain ⟨o1, h1, l1⟩ := tracks_stepIn c st.ap i
  have ht : ∃ ops, Tracks st.ap (apStep c st i).ap ops ∧ loginsOf ops = loginsIn [i] := by
    simp only [apStep]
    split
    · obtain ⟨o2, h2, l2⟩ := tracks_close c (AP.stepIn c st.ap i).1
      exact ⟨o1 ++ o2, h1.trans h2, by rw [loginsOf_append, l1, l2, List.append_nil]⟩
    · exact ⟨o1, h1, l1⟩
  obtain ⟨ops, ht, hl⟩ := ht
  obtain ⟨new, hnew⟩ := Tr.out_fold st.ap.tr ops
  rw [← ht.tr] at hnew
  refine ⟨ops, new, ht, hl, hnew, ?_⟩
  show st.out ++ newActions st.ap (apStep c st i).ap = _
  rw [newActions, hnew, List.drop_left]

/-- the login was produced by processing a record of the sshd pipe, whose trace wrote event `e`
successfully and sent the login right after it -/
def Prov (cfg : Sshd.Cfg) (done : List (Str × Str × Bool × Bool)) (l : Tr.Login) (e : Ev) (pid : Str) (n : Int) : Prop :=
  ∃ msg ok cn cr, (pid, msg, ok, cn) ∈ done ∧
    sentOf (Sshd.process cfg pid msg ok (if cn then .cancel else .ready)).effs = some (e, n, cr) ∧
    l = loginOf e n cr

/-- the action is justified by what precedes it in the output -/
def Justified (cfg : Sshd.Cfg) (done : List (Str × Str × Bool × Bool)) (pre : List Item) (em : Tr.Emitted) : Prop :=
  ∃ e pid n, Prov cfg done em.login e pid n ∧ Item.sshd e ∈ pre

def CausalD (cfg : Sshd.Cfg) (done : List (Str × Str × Bool × Bool)) (out : List Item) : Prop :=
  ∀ pre post em, out = pre ++ .action em :: post → Justified cfg done pre em

/-- `Justified … pre em` is `Announced … pre em.login`, and `K.handedOk` / `K.inflightOk` spell it out -/
def Announced (cfg : Sshd.Cfg) (done : List (Str × Str × Bool × Bool)) (out : List Item) (l : Tr.Login) : Prop :=
  ∃ e pid n, Prov cfg done l e pid n ∧ Item.sshd e ∈ out

theorem Announced.mono {cfg : Sshd.Cfg} {d d' : List (Str × Str × Bool × Bool)} {out out' : List Item} {l : Tr.Login}
    (h : Announced cfg d out l) (hd : ∀ x ∈ d, x ∈ d') (ho : ∀ x ∈ out, x ∈ out') : Announced cfg d' out' l := by
  obtain ⟨e, pid, n, ⟨msg, ok, cn, cr, hm, h2, h3⟩, hin⟩ := h
  exact ⟨e, pid, n, ⟨msg, ok, cn, cr, hd _ hm, h2, h3⟩, ho _ hin⟩

theorem causalD_mono {cfg : Sshd.Cfg} {d d' : List (Str × Str × Bool × Bool)} {out : List Item}
    (h : CausalD cfg d out) (hs : ∀ x ∈ d, x ∈ d') : CausalD cfg d' out :=
  fun pre post em he => Announced.mono (h pre post em he) hs fun _ h => h

theorem CausalD.append {cfg : Sshd.Cfg} {d : List (Str × Str × Bool × Bool)} {out new : List Item}
    (h : CausalD cfg d out) (hn : ∀ em, .action em ∈ new → Announced cfg d out em.login) : CausalD cfg d (out ++ new) :=
  justified_append (act := Item.action) (G := Justified cfg d)
    (fun _ more _ h => Announced.mono h (fun _ h => h) fun _ => List.mem_append_left more) h hn

structure K (cfg : Sshd.Cfg) (f : Option Nat) (st : Dm.St) : Prop where
  lift : Lift f st.handed st.ap
  handedOk : ∀ l ∈ st.handed, ∃ e pid n, Prov cfg st.done l e pid n ∧ Item.sshd e ∈ st.out
  inflightOk : ∀ l, st.inflight = some l → ∃ e pid n, Prov cfg st.done l e pid n ∧ Item.sshd e ∈ st.out
  causal : CausalD cfg st.done st.out

theorem sentOf_written {effs : List Sshd.Eff} {e : Ev} {n : Int} {c : Str} (h : sentOf effs = some (e, n, c)) :
    e ∈ written effs := by
  induction effs using sentOf.induct with
  | case1 e' n' c' rest =>
    simp only [sentOf, Option.some.injEq, Prod.mk.injEq] at h
    simp [written, h.1]
  | case2 x r hne ih =>
    rw [sentOf] at h
    · cases x with
      | write ev ok => cases ok <;> simp [written, ih h]
      | _ => simp [written, ih h]
    · exact hne
  | case3 => cases h

theorem k_apStep {cfg : Sshd.Cfg} {f : Option Nat} {c : AP.Cfg} {st : Dm.St} (i : AP.In) (h : K cfg f st)
    (hls : ∀ l ∈ loginsIn [i], Announced cfg st.done st.out l) :
    Lift f (st.handed ++ loginsIn [i]) (apStep c st i).ap ∧
    CausalD cfg st.done (apStep c st i).out ∧ (∀ x ∈ st.out, x ∈ (apStep c st i).out) := by
  obtain ⟨ops, new, ht, hlog, hout, hitems⟩ := apStep_tracks c st i
  have hl : Lift f (st.handed ++ loginsIn [i]) (apStep c st i).ap := h.lift.tracks ht (hlog ▸ fun _ h => h)
  rw [hitems]
  refine ⟨hl, h.causal.append fun em hem => ?_, fun x hx => List.mem_append_left _ hx⟩
  -- the emitted event's login was handed over before, or by this input
  obtain ⟨em', hem', heq⟩ := List.mem_map.mp hem
  cases heq
  rcases List.mem_append.mp (hl.logins _ (hl.inv.outOk em (hout ▸ List.mem_append_right _ hem')).2.1) with hh | hh
  · exact h.handedOk _ hh
  · exact hls _ hh

/-- A step does nothing; or the sshd pipeline processes its next record; or the login in
flight or the next audit input is dropped (logins only come over the channel); or the processor
consumes an input — a login only if it is the one in flight. -/
theorem step_cases (cfg : Sshd.Cfg) (c : AP.Cfg) (st : Dm.St) (a : Act) :
    Dm.step cfg c st a = st ∨
    (∃ pid msg ok rest cn, st.sshdTodo = (pid, msg, ok) :: rest ∧
      let o := Sshd.process cfg pid msg ok (if cn then .cancel else .ready)
      Dm.step cfg c st a =
        { st with sshdTodo := rest, done := st.done ++ [(pid, msg, ok, cn)], out := st.out ++ (written o.effs).map .sshd,
                  inflight := (sentOf o.effs).map fun x => loginOf x.1 x.2.1 x.2.2, sshdDead := o.res != .nil }) ∨
    (∃ inf todo, Dm.step cfg c st a = { st with inflight := inf, auditTodo := todo } ∧
      (inf = none ∨ inf = st.inflight)) ∨
    ∃ i inf todo hd, Dm.step cfg c st a = { apStep c st i with inflight := inf, auditTodo := todo, handed := hd } ∧
      hd = st.handed ++ loginsIn [i] ∧ (∀ l ∈ loginsIn [i], st.inflight = some l) ∧ (inf = none ∨ inf = st.inflight) := by
  -- (the step is named before its definition is split: the statement mentions it four times)
  generalize hs : Dm.step cfg c st a = st'
  cases a with
  | sshdLine cancelled =>
    simp only [Dm.step] at hs
    split at hs
    · exact Or.inl hs.symm
    · split at hs <;> subst hs
      · exact Or.inl rfl
      · rename_i pid msg ok rest htd
        exact Or.inr (Or.inl ⟨pid, msg, ok, rest, cancelled, htd, rfl⟩)
  | handoff =>
    simp only [Dm.step] at hs
    split at hs
    · exact Or.inl hs.symm
    · rename_i l hin
      split at hs <;> subst hs
      · exact Or.inl rfl
      · exact Or.inr (Or.inr (Or.inr ⟨.login l, none, st.auditTodo, _, rfl, rfl,
          fun x hx => List.mem_singleton.mp hx ▸ hin, Or.inl rfl⟩))
  | sshdCancel => exact Or.inr (Or.inr (Or.inl ⟨none, st.auditTodo, hs.symm, Or.inl rfl⟩))
  | audit =>
    simp only [Dm.step] at hs
    split at hs
    · exact Or.inl hs.symm
    · split at hs <;> subst hs
      · exact Or.inl rfl
      · rename_i rest _
        exact Or.inr (Or.inr (Or.inl ⟨st.inflight, rest, rfl, Or.inr rfl⟩))
      · rename_i i rest hnl _
        have hno : loginsIn [i] = [] := by
          cases i with
          | login l => exact absurd rfl (hnl l)
          | _ => rfl
        exact Or.inr (Or.inr (Or.inr ⟨i, st.inflight, rest, st.handed, rfl, by rw [hno, List.append_nil],
          by simp [hno], Or.inr rfl⟩))

theorem k_step (cfg : Sshd.Cfg) (f : Option Nat) (c : AP.Cfg) (st : Dm.St) (a : Act) (h : K cfg f st) :
    K cfg f (Dm.step cfg c st a) := by
  rcases step_cases cfg c st a with hs | ⟨pid, msg, ok, rest, cn, -, hs⟩ | ⟨inf, todo, hs, hinf⟩ |
    ⟨i, inf, todo, hd, hs, rfl, hin, hinf⟩ <;> rw [hs]
  · exact h
  · have hd : ∀ x ∈ st.done, x ∈ st.done ++ [(pid, msg, ok, cn)] := fun x hx => List.mem_append_left _ hx
    have ho : ∀ {new : List Item}, ∀ x ∈ st.out, x ∈ st.out ++ new := fun x hx => List.mem_append_left _ hx
    refine ⟨h.lift, fun l hl => Announced.mono (h.handedOk l hl) hd ho, fun l hl => ?_,
      causalD_mono (h.causal.append (by simp)) hd⟩
    -- the login now in flight: this record's trace sent it right after writing its event
    simp only [Option.map_eq_some_iff] at hl
    obtain ⟨⟨e, n, cr⟩, hs, rfl⟩ := hl
    exact ⟨e, pid, n, ⟨msg, ok, cn, cr, by simp, hs, rfl⟩,
      List.mem_append_right _ (List.mem_map.mpr ⟨e, sentOf_written hs, rfl⟩)⟩
  · refine ⟨h.lift, h.handedOk, fun l hl => h.inflightOk l ?_, h.causal⟩
    rcases hinf with rfl | rfl
    · cases hl
    · exact hl
  · obtain ⟨hl, hc, hmono⟩ := k_apStep (c := c) i h fun l hl => h.inflightOk l (hin l hl)
    refine ⟨hl, fun x hx => ?_, fun x hx => ?_, hc⟩
    · rcases List.mem_append.mp hx with hx | hx
      · exact Announced.mono (h.handedOk x hx) (fun _ h => h) hmono
      · exact Announced.mono (h.inflightOk x (hin x hx)) (fun _ h => h) hmono
    · rcases hinf with rfl | rfl
      · cases hx
      · exact Announced.mono (h.inflightOk x hx) (fun _ h => h) hmono

theorem k_init (cfg : Sshd.Cfg) (f : Option Nat) (todo : List (Str × Str × Bool)) (ins : List AP.In) :
    K cfg f { sshdTodo := todo, auditTodo := ins, ap := { tr := { failAt := f } } } :=
  ⟨⟨rfl, rfl, by simp [loginsOf]⟩, by simp, by simp, by intro pre post em he; simp at he⟩

theorem run_ind {cfg : Sshd.Cfg} {c : AP.Cfg} {P : Dm.St → Prop} (hstep : ∀ st a, P st → P (Dm.step cfg c st a))
    {st : Dm.St} (h : P st) (sched : List Act) : P (Dm.run cfg c st sched) :=
  List.foldlRecOn sched (Dm.step cfg c) h fun s hs a _ => hstep s a hs

theorem step_out (cfg : Sshd.Cfg) (c : AP.Cfg) (st : Dm.St) (a : Act) :
    (∃ new, (Dm.step cfg c st a).out = st.out ++ new.map .action ∧
      (Dm.step cfg c st a).ap.tr.out = st.ap.tr.out ++ new ∧
      (Dm.step cfg c st a).done = st.done ∧ (Dm.step cfg c st a).sshdTodo = st.sshdTodo) ∨
    (∃ pid msg ok cn, st.sshdTodo = (pid, msg, ok) :: (Dm.step cfg c st a).sshdTodo ∧
      (Dm.step cfg c st a).done = st.done ++ [(pid, msg, ok, cn)] ∧
      (Dm.step cfg c st a).out = st.out ++
        (written (Sshd.process cfg pid msg ok (if cn then .cancel else .ready)).effs).map .sshd ∧
      (Dm.step cfg c st a).ap = st.ap) := by
  rcases step_cases cfg c st a with hs | ⟨pid, msg, ok, rest, cn, htd, hs⟩ | ⟨inf, todo, hs, -⟩ |
    ⟨i, inf, todo, hd, hs, -, -, -⟩ <;> rw [hs]
  · exact Or.inl ⟨[], (List.append_nil _).symm, (List.append_nil _).symm, rfl, rfl⟩
  · exact Or.inr ⟨pid, msg, ok, cn, htd, rfl, rfl, rfl⟩
  · exact Or.inl ⟨[], (List.append_nil _).symm, (List.append_nil _).symm, rfl, rfl⟩
  · obtain ⟨_, new, _, _, ho, hi⟩ := apStep_tracks c st i
    exact Or.inl ⟨new, hi, ho, rfl, rfl⟩

def actionsIn (out : List Item) : List Tr.Emitted :=
  out.filterMap fun x => match x with | .action em => some em | _ => none

theorem actionsIn_append (a b : List Item) : actionsIn (a ++ b) = actionsIn a ++ actionsIn b := by
  simp [actionsIn, List.filterMap_append]

theorem actionsIn_actions (l : List Tr.Emitted) : actionsIn (l.map .action) = l := by
  simp [actionsIn, List.filterMap_map, Function.comp_def]

theorem actionsIn_sshd (l : List Ev) : actionsIn (l.map .sshd) = [] := by
  simp [actionsIn, List.filterMap_map, Function.comp_def]

structure Src (todo : List (Str × Str × Bool)) (st : Dm.St) : Prop where
  pipe : st.done.map (fun x => (x.1, x.2.1, x.2.2.1)) ++ st.sshdTodo = todo
  actions : actionsIn st.out = st.ap.tr.out

theorem src_step {cfg : Sshd.Cfg} {c : AP.Cfg} {todo : List (Str × Str × Bool)} (st : Dm.St) (a : Act)
    (h : Src todo st) : Src todo (Dm.step cfg c st a) := by
  rcases step_out cfg c st a with ⟨new, h1, h2, h3, h4⟩ | ⟨pid, msg, ok, cn, h1, h2, h3, h4⟩
  · exact ⟨by rw [h3, h4, h.pipe], by rw [h1, h2, actionsIn_append, actionsIn_actions, h.actions]⟩
  · exact ⟨by rw [h2, ← h.pipe, h1]; simp, by rw [h3, h4, actionsIn_append, actionsIn_sshd, List.append_nil, h.actions]⟩

theorem sent_facts (cfg : Sshd.Cfg) (pid msg : Str) (ok : Bool) (hd : Sshd.Handoff) (e : Ev) (n : Int) (cr : Str)
    (h : sentOf (Sshd.process cfg pid msg ok hd).effs = some (e, n, cr)) :
    ok = true ∧ hd = .ready ∧ e.outcome = "succeeded" ∧ atoi pid = some n := by
  have hs := Sshd.process_shape cfg pid msg ok hd
  generalize Sshd.process cfg pid msg ok hd = o at hs h
  cases hs with
  | quiet is _ =>
    exfalso
    have hno : ∀ l : List (String × String), sentOf (l.map Sshd.toInc) = none := by
      intro l
      induction l with
      | nil => rfl
      | cons x rest ih => simpa [Sshd.toInc, sentOf] using ih
    rw [hno] at h
    cases h
  | wfail m oc e' _ _ _ => simp [sentOf] at h
  | wok m oc e' _ _ _ _ => simp [sentOf] at h
  | wsend m oc e' n' c' _ _ hok hready hout hn _ =>
    simp only [sentOf, Option.some.injEq, Prod.mk.injEq] at h
    obtain ⟨rfl, rfl, rfl⟩ := h
    exact ⟨hok, hready, hout, hn⟩

theorem end_to_end (cfg : Sshd.Cfg) (f : Option Nat) (c : AP.Cfg) (todo : List (Str × Str × Bool))
    (ins : List AP.In) (sched : List Act) (pre post : List Item) (em : Tr.Emitted)
    (hout : (Dm.run cfg c { sshdTodo := todo, auditTodo := ins, ap := { tr := { failAt := f } } } sched).out =
      pre ++ .action em :: post) :
    ∃ e pid msg n cr,
      -- an `Accepted …` record of the sshd pipe, processed with a working writer and a live correlator
      (pid, msg, true) ∈ todo ∧
      sentOf (Sshd.process cfg pid msg true .ready).effs = some (e, n, cr) ∧
      e.outcome = "succeeded" ∧ atoi pid = some n ∧
      -- its UserLogin event comes first in the output, and the action carries exactly its identity
      Item.sshd e ∈ pre ∧ em.login = loginOf e n cr ∧
      -- and the action's session was opened by a LOGIN record with that PID, handed to the correlator
      ∃ r ∈ (Dm.run cfg c { sshdTodo := todo, auditTodo := ins, ap := { tr := { failAt := f } } } sched).ap.handed,
        isOpener r em.ev.ses n := by
  generalize hfin : Dm.run cfg c { sshdTodo := todo, auditTodo := ins, ap := { tr := { failAt := f } } } sched = fin
    at hout ⊢
  have hk : K cfg f fin := hfin ▸ run_ind (k_step cfg f c) (k_init cfg f todo ins) sched
  have hsrc : Src todo fin := hfin ▸ run_ind (fun st a => src_step st a) ⟨by simp, rfl⟩ sched
  obtain ⟨e, pid, n, ⟨msg, ok, cn, cr, hdone, hsent, hlog⟩, hpre⟩ := hk.causal pre post em hout
  obtain ⟨hok, hready, hsucc, hatoi⟩ := sent_facts cfg pid msg ok _ e n cr hsent
  have hcn : cn = false := by cases cn <;> simp_all
  subst hok hcn
  have hin : (pid, msg, true) ∈ todo :=
    hsrc.pipe ▸ List.mem_append_left _ (List.mem_map.mpr ⟨_, hdone, rfl⟩)
  -- the opener: the correlator's invariant holds inside the processor
  have hem : em ∈ fin.ap.tr.out := by
    rw [← hsrc.actions, hout, actionsIn_append]
    exact List.mem_append_right _ (by simp [actionsIn])
  obtain ⟨_, _, _, r, hr, ho⟩ := hk.lift.inv.outOk em hem
  rw [hk.lift.audits] at hr
  refine ⟨e, pid, msg, n, cr, hin, by simpa using hsent, hsucc, hatoi, hpre, hlog, r, hr, ?_⟩
  rw [hlog] at ho
  simpa [loginOf] using ho

def sshdIn (out : List Item) : List Ev :=
  out.filterMap fun x => match x with | .sshd e => some e | _ => none

def eventsOf (cfg : Sshd.Cfg) (done : List (Str × Str × Bool × Bool)) : List Ev :=
  done.flatMap fun r => written (Sshd.process cfg r.1 r.2.1 r.2.2.1 (if r.2.2.2 then .cancel else .ready)).effs

theorem sshdIn_append (a b : List Item) : sshdIn (a ++ b) = sshdIn a ++ sshdIn b := by
  simp [sshdIn, List.filterMap_append]

theorem sshdIn_actions (l : List Tr.Emitted) : sshdIn (l.map .action) = [] := by
  simp [sshdIn, List.filterMap_map, Function.comp_def]

theorem sshdIn_sshd (l : List Ev) : sshdIn (l.map .sshd) = l := by
  simp [sshdIn, List.filterMap_map, Function.comp_def]

/-- **Every event of the sshd pipeline is written exactly once, in the order of the records of the
pipe**: the UserLogin events in the output are, for every schedule, the events written while
processing the records consumed so far (one per record that produces an event — C11/C06), in order. -/
theorem sshd_events_once (cfg : Sshd.Cfg) (f : Option Nat) (c : AP.Cfg) (st : Dm.St) (sched : List Act)
    (hk : K cfg f st) (h0 : sshdIn st.out = eventsOf cfg st.done) :
    sshdIn (Dm.run cfg c st sched).out = eventsOf cfg (Dm.run cfg c st sched).done := by
  -- `hk` is not needed: what a step appends is read off `Dm.step`, with no invariant
  refine run_ind (P := fun st => sshdIn st.out = eventsOf cfg st.done) (fun st a h => ?_) h0 sched
  rcases step_out cfg c st a with ⟨new, h1, -, h3, -⟩ | ⟨pid, msg, ok, cn, -, h2, h3, -⟩
  · rw [h1, h3, sshdIn_append, sshdIn_actions, List.append_nil, h]
  · rw [h3, h2, sshdIn_append, sshdIn_sshd, h]
    simp [eventsOf]

/-! ### a concrete run (the statement is not vacuous) -/

def demoCfg : Sshd.Cfg := ⟨"node-1".toList, "0123".toList⟩

def demoRec (tag seq : Nat) (typ : Tr.EvType) : AP.Rec :=
  { seq := seq, kind := .single, tag := tag, ts := 1600000000 + seq, typ := typ, ses := "7".toList,
    pidTok := "4242".toList, result := "success".toList, args := [] }

/-- the sshd pipe carries a failed attempt and then the accepted login of PID 4242; the audit pipe
carries that session's LOGIN record, a command and the end of the session -/
def demoInit : Dm.St :=
  { sshdTodo := [("4242".toList, "Failed password for bob from 10.0.0.9 port 2200 ssh2".toList, true),
                 ("4242".toList, "Accepted password for bob from 10.0.0.9 port 2200 ssh2".toList, true)],
    auditTodo := [.line [] (some (demoRec 0 1 .login)), .line [] (some (demoRec 1 2 .other)),
                  .line [] (some (demoRec 2 3 .credDisp))] }

/-- the audit side runs ahead (the session's events are held), then the sshd side writes both its
events and hands the login over, which releases the held events -/
def demoSched : List Act := [.audit, .audit, .sshdLine false, .sshdLine false, .handoff, .audit]

theorem demo_output :
    (Dm.run demoCfg {} demoInit demoSched).out.map (fun x => match x with
      | .sshd e => (e.outcome, (0 : Int)) | .action em => ("action", em.ev.ts)) =
    [("failed", 0), ("succeeded", 0), ("action", 1600000001), ("action", 1600000002), ("action", 1600000003)] := by
  decide +kernel

end AM.C10D
