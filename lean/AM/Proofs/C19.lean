import AM.Proofs.SshdShape
/-! C19 — for EVERY line: an event is counted exactly once, under the outcome label that agrees
with the event and the method label of the accept keyword the line starts with; lines without a
keyword count nothing. Corollaries of `Sshd.process_writes`. -/
namespace AM.C19
open AM.Sshd AM.Spec

/-- the model counts first and writes afterwards (`incAt … ++ [write …]`), which is why an event that is
written is counted whatever happens to the hand-off that follows: in the working tree every `IncLogins`
call inside an entry function stands before the event write of its branch and outside any `select`
(regenerated placement facts) -/
theorem gen_incs_precede_the_write :
    (AM.Gen.incPlacement.all fun x => x.2.all (· == "before-write")) = true := by decide

theorem counted_once (cfg : Cfg) (pid line : Str) (ok : Bool) (h : Handoff) (e : Ev) (b : Bool) :
    (e, b) ∈ writes (process cfg pid line ok h) →
      ∃ m oc, incs (process cfg pid line ok h) = [(m, oc)] ∧
        ((oc = "success") ↔ (e.outcome = "succeeded")) ∧ (oc = "success" ∨ oc = "failure") := by
  intro hm
  obtain ⟨m, oc, _, hl, hi⟩ := written_event hm
  exact ⟨m, oc, hi, hl.1, hl.2.1⟩

theorem method_label (cfg : Cfg) (pid line : Str) (ok : Bool) (h : Handoff) (e : Ev) (b : Bool)
    (m oc : String) :
    (e, b) ∈ writes (process cfg pid line ok h) → e.outcome = "succeeded" →
      incs (process cfg pid line ok h) = [(m, oc)] →
      ((s "Accepted password").isPrefixOf line = true ∧ m = "password") ∨
      ((s "Accepted publickey").isPrefixOf line = true ∧ (m = "ssh-key" ∨ m = "ssh-cert")) := by
  intro hm hout hi
  obtain ⟨m', oc', _, hl, hi'⟩ := written_event hm
  rw [hi'] at hi
  cases hi
  exact hl.2.2.1 hout

theorem quiet (cfg : Cfg) (pid line : Str) (ok : Bool) (h : Handoff) :
    hasKeyword line = false → incs (process cfg pid line ok h) = [] := by
  intro hk
  rcases process_writes cfg pid line ok h with ⟨_, hq⟩ | ⟨_, _, _, _, hl, _, _⟩
  · exact hq hk
  · rw [hl.2.2.2] at hk; cases hk

theorem spec_holds (cfg : Cfg) (pid line : Str) (ok : Bool) (h : Handoff) :
    specC19 line (process cfg pid line ok h) = none := by
  rcases process_writes cfg pid line ok h with ⟨hw, hq⟩ | ⟨m, oc, e, _, hl, hw, hi⟩
  · simp only [specC19, hw]
    cases hk : hasKeyword line with
    | false => simp [hq hk]
    | true => simp
  · simp only [specC19, hw, hi]
    obtain ⟨hiff, hoc, hmeth, _⟩ := hl
    by_cases hout : e.outcome = "succeeded"
    · have hsucc : oc = "success" := hiff.mpr hout
      subst hsucc
      rcases hmeth hout with ⟨hp, rfl⟩ | ⟨hp, hm⟩
      · simp [hout, hp]
      · -- the judge tests the password keyword first: a public-key line does not start with it as well
        have hnp : (s "Accepted password").isPrefixOf line = false := by
          cases hpp : (s "Accepted password").isPrefixOf line with
          | false => rfl
          | true =>
            exact (mismatch_prefixes (by decide) (List.isPrefixOf_iff_prefix.mp hpp)
              (List.isPrefixOf_iff_prefix.mp hp)).elim
        rcases hm with rfl | rfl <;> simp [hout, hp, hnp]
    · have hns : oc ≠ "success" := fun h0 => hout (hiff.mp h0)
      have hf : oc = "failure" := by rcases hoc with h0 | h0; exact absurd h0 hns; exact h0
      subst hf
      simp [hout]

end AM.C19
