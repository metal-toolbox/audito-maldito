import AM.Proofs.TrackerTrace
import AM.Proofs.C16Hist
/-! C16, the judge's clause "dropped, not emitted late" (`Spec.Tracker.specNotLate`) as a theorem: for EVERY history and
every write oracle, an emitted event was delivered no later than it was written, and every session cleanup between
delivery and emission has a cut-off no later than the stamp of the session entry that held it — that of a LOGIN-type
record of its session delivered before it. -/
namespace AM.C16L
open AM.Tr AM.Spec.Tracker

/-- the session entry `(s, u)` was created by a LOGIN-type record of `s` delivered before operation `b`, and carries
that operation's time as its stamp -/
def Stamped (h0 : List Op) (b : Nat) (s : Str) (stamp : Time) : Prop :=
  ∃ i r, i ≤ b ∧ h0[i]? = some (.audit r stamp) ∧ r.typ = .login ∧ r.ses = s

/-- `e` was delivered by operation `q`, and no session cleanup between `q` and `n` overtakes `stamp` -/
def Kept (h0 : List Op) (n : Nat) (e : AEvent) (q : Nat) (stamp : Time) : Prop :=
  (∃ nq, h0[q]? = some (.audit e nq)) ∧ ∀ k t, q < k → k < n → h0[k]? = some (.cleanSessions t) → t ≤ stamp

structure InvN (h0 : List Op) (n : Nat) (st : St) : Prop where
  ses : ∀ s u, (s, u) ∈ st.sessions → ∃ b, b < n ∧ Stamped h0 b s u.added
  held : ∀ s u e, (s, u) ∈ st.sessions → e ∈ u.cached →
    e.ses = s ∧ ∃ q, q < n ∧ Kept h0 n e q u.added ∧ Stamped h0 q s u.added
  flushed : ∀ s u, (s, u) ∈ st.sessions → u.login ≠ none → u.cached = []

/-- what `runTrace` attaches to an emitted event -/
def Tag (h0 : List Op) (p : Emitted × Nat) : Prop :=
  ∃ q, q ≤ p.2 ∧ (∃ nq, h0[q]? = some (.audit p.1.ev nq)) ∧
    ∀ k t, q < k → k < p.2 → h0[k]? = some (.cleanSessions t) → ∃ stamp, Stamped h0 q p.1.ev.ses stamp ∧ t ≤ stamp

/-- (A) whatever operation `n` emits is tagged -/
theorem step_tags (h0 : List Op) (n : Nat) (st : St) (op : Op) (hi : InvN h0 n st) (hop : h0[n]? = some op) :
    ∃ new, (step st op).1.out = st.out ++ new ∧ ∀ em ∈ new, Tag h0 (em, n) := by
  obtain ⟨⟨new, ho, hn⟩, _⟩ := AM.C16H.step_from st op
  refine ⟨new, ho, fun em hem => ?_⟩
  rcases hn em hem with ⟨s, u, hm, he⟩ | ⟨now, rfl⟩
  · obtain ⟨hs, q, hq, ⟨hdel, hkeep⟩, hst⟩ := hi.held s u em.ev hm he
    exact ⟨q, Nat.le_of_lt hq, hdel, fun k t h1 h2 h3 => ⟨u.added, hs ▸ hst, hkeep k t h1 h2 h3⟩⟩
  · exact ⟨n, Nat.le_refl _, ⟨now, hop⟩, fun k t h1 h2 => by omega⟩

theorem Stamped.mono {h0 : List Op} {b b' : Nat} {s : Str} {stamp : Time} (h : Stamped h0 b s stamp) (hb : b ≤ b') :
    Stamped h0 b' s stamp := by
  obtain ⟨i, r, hi, h1, h2, h3⟩ := h
  exact ⟨i, r, Nat.le_trans hi hb, h1, h2, h3⟩

theorem Kept.succ {h0 : List Op} {n q : Nat} {e : AEvent} {stamp : Time} {op : Op} (hk : Kept h0 n e q stamp)
    (hop : h0[n]? = some op) (hcl : ∀ t, op = .cleanSessions t → t ≤ stamp) : Kept h0 (n + 1) e q stamp := by
  refine ⟨hk.1, fun k t h1 h2 h3 => ?_⟩
  by_cases hlt : k < n
  · exact hk.2 k t h1 hlt h3
  · have : k = n := by omega
    subst this
    exact hcl t (Option.some.inj (hop ▸ h3))

/-- (B), generic form: every entry of the new table is an old entry carried over, a modified entry of an existing
session, or a new entry created by the LOGIN-type record being delivered -/
theorem invN_of {h0 : List Op} {n : Nat} {st st' : St} {op : Op} (hi : InvN h0 n st) (hop : h0[n]? = some op)
    (hall : ∀ s u, (s, u) ∈ st'.sessions →
      ((s, u) ∈ st.sessions ∧ (∀ t, op = .cleanSessions t → u.cached ≠ [] → t ≤ u.added)) ∨
      (∃ u0, (s, u0) ∈ st.sessions ∧ u.added = u0.added ∧ (u.login ≠ none → u.cached = []) ∧
        (∀ e ∈ u.cached, e ∈ u0.cached ∨ (∃ now, op = .audit e now ∧ e.ses = s)) ∧ (∀ t, op ≠ .cleanSessions t)) ∨
      (∃ e now, op = .audit e now ∧ e.typ = .login ∧ e.ses = s ∧ u.added = now ∧ (u.login ≠ none → u.cached = []) ∧
        (∀ e' ∈ u.cached, e' = e))) :
    InvN h0 (n + 1) st' := by
  refine ⟨?_, ?_, ?_⟩
  · intro s u hm
    rcases hall s u hm with ⟨hm0, _⟩ | ⟨u0, hm0, hadd, _, _, _⟩ | ⟨e, now, rfl, hty, hs, hadd, _, _⟩
    · obtain ⟨b, hb, hst⟩ := hi.ses s u hm0; exact ⟨b, by omega, hst⟩
    · obtain ⟨b, hb, hst⟩ := hi.ses s u0 hm0; exact ⟨b, by omega, by rw [hadd]; exact hst⟩
    · exact ⟨n, by omega, n, e, Nat.le_refl _, by rw [hadd]; exact hop, hty, hs⟩
  · intro s u e hm he
    rcases hall s u hm with ⟨hm0, hcl⟩ | ⟨u0, hm0, hadd, _, hc, hnc⟩ | ⟨e0, now, rfl, hty, hs, hadd, _, hc⟩
    · obtain ⟨hs, q, hq, hkept, hst⟩ := hi.held s u e hm0 he
      exact ⟨hs, q, by omega, hkept.succ hop fun t ht => hcl t ht (List.ne_nil_of_mem he), hst⟩
    · rcases hc e he with he0 | ⟨now, rfl, hs⟩
      · obtain ⟨hs, q, hq, hkept, hst⟩ := hi.held s u0 e hm0 he0
        rw [hadd]
        exact ⟨hs, q, by omega, hkept.succ hop fun t ht => absurd ht (hnc t), hst⟩
      · obtain ⟨b, hb, hst⟩ := hi.ses s u0 hm0
        refine ⟨hs, n, by omega, ⟨⟨now, hop⟩, fun k t h1 h2 _ => by omega⟩, ?_⟩
        rw [hadd]; exact hst.mono (by omega)
    · have := hc e he
      subst this
      refine ⟨hs, n, by omega, ⟨⟨now, hop⟩, fun k t h1 h2 _ => by omega⟩, ?_⟩
      exact ⟨n, e, Nat.le_refl _, by rw [hadd]; exact hop, hty, hs⟩
  · intro s u hm hl
    rcases hall s u hm with ⟨hm0, _⟩ | ⟨u0, _, _, hf, _, _⟩ | ⟨e, now, _, _, _, _, hf, _⟩
    · exact hi.flushed s u hm0 hl
    · exact hf hl
    · exact hf hl

theorem InvN.step {h0 : List Op} {n : Nat} {st st' : St} {op : Op} {err : Option Err} (hi : InvN h0 n st)
    (hs : Step st op st' err) (hop : h0[n]? = some op) (hok : err = none) : InvN h0 (n + 1) st' := by
  have carried : ∀ {s : Str} {u : User}, (s, u) ∈ st.sessions → (∀ t, op ≠ .cleanSessions t) →
      ((s, u) ∈ st.sessions ∧ (∀ t, op = .cleanSessions t → u.cached ≠ [] → t ≤ u.added)) :=
    fun hm hne => ⟨hm, fun t ht => absurd ht (hne t)⟩
  cases hs with
  | skip hk => exact invN_of hi hop fun s u hm => Or.inl (carried hm (by cases hk <;> simp))
  | park => exact invN_of hi hop fun s u hm => Or.inl (carried hm (by simp))
  | cleanLogins => exact invN_of hi hop fun s u hm => Or.inl (carried hm (by simp))
  | cleanSessions t =>
    refine invN_of hi hop fun s u hm => Or.inl ?_
    obtain ⟨hm0, hkeep⟩ := List.mem_filter.mp hm
    refine ⟨hm0, fun t' ht' hne => ?_⟩
    cases ht'
    -- a session that still holds events has no login yet, so it was kept for its age
    have hnone : u.login = none := by
      cases hl : u.login with
      | none => rfl
      | some l => exact absurd (hi.flushed s u hm0 (by simp [hl])) hne
    exact Int.not_lt.mp fun hlt => by simp [hnone, hlt] at hkeep
  | @release l s0 u0 more hv hf =>
    have hm0 := (matched hf).1
    refine invN_of hi hop fun s u hm => ?_
    -- `hok` is needed here: a failed writer would leave the now bound entry with its queue
    rcases St.mem_flush_ok (by exact hok) hm with ⟨hm, _⟩ | heq
    · exact Or.inl (carried hm (by simp))
    · cases heq; exact Or.inr (Or.inl ⟨u0, hm0, rfl, by simp, by simp, by simp⟩)
  | @hold e now u0 L h1 h2 hE hn =>
    refine invN_of hi hop fun s u hm => ?_
    rcases mem_aStore hm with heq | ⟨hm, _⟩
    · cases heq
      cases hE with
      | tracked hlook =>
        refine Or.inr (Or.inl ⟨u0, aLookup_mem hlook, rfl, fun h => absurd hn h, fun e' he' => ?_, by simp⟩)
        rcases List.mem_append.mp he' with he' | he'
        · exact Or.inl he'
        · cases List.mem_singleton.mp he'; exact Or.inr ⟨now, rfl, rfl⟩
      | opened _ ht => exact Or.inr (Or.inr ⟨e, now, rfl, ht, rfl, rfl, fun h => absurd hn h, by simp⟩)
    · exact Or.inl (carried hm (by simp))
  | @emit e now u0 L l h1 h2 hE hl =>
    refine invN_of hi hop fun s u hm => ?_
    rcases St.mem_flush_ok (by exact hok) hm with ⟨hm, _⟩ | heq
    · exact Or.inl (carried hm (by simp))
    · cases heq
      cases hE with
      | tracked hlook => exact Or.inr (Or.inl ⟨u0, aLookup_mem hlook, rfl, by simp, by simp, by simp⟩)
      | opened _ ht => exact Or.inr (Or.inr ⟨e, now, rfl, ht, rfl, rfl, by simp, by simp⟩)

theorem invN_step (h0 : List Op) (n : Nat) (st : St) (op : Op) (hi : InvN h0 n st) (hop : h0[n]? = some op)
    (hok : (step st op).2 = none) : InvN h0 (n + 1) (step st op).1 :=
  hi.step (step_spec st op) hop hok

theorem trace_tag (failAt : Option Nat) (h : List Op) :
    ∀ p ∈ (runTrace { failAt := failAt } 0 h []).1, Tag h p :=
  runTrace_induction h (I := InvN h) (Q := Tag h) (fun n st op hop hI hok => invN_step h n st op hI hop hok)
    (fun n st op hop hI => step_tags h n st op hI hop) [] h _ [] rfl ⟨by simp, by simp, by simp⟩ (by simp)

/-- **The judge accepts the model, for every history and every write oracle.** -/
theorem not_late_spec_holds (failAt : Option Nat) (h : List Op) :
    specNotLate h (modelObs failAt h).1 = none := by
  refine spec_of_trace fun p hp => ?_
  obtain ⟨q, hq, ⟨nq, hdel⟩, hcl⟩ := trace_tag failAt h p hp
  -- the clause is `if ok then none else …`: left to show is `ok`, with operation `q` as the delivery
  rw [if_pos]
  refine List.any_eq_true.mpr ⟨(q, Op.audit p.1.ev nq), mem_idxOps.mpr hdel, ?_⟩
  simp only [Bool.and_eq_true, decide_eq_true_eq]
  refine ⟨⟨⟨rfl, rfl⟩, hq⟩, List.all_eq_true.mpr fun c hc => ?_⟩
  obtain ⟨kk, opc⟩ := c
  have hgk : h[kk]? = some opc := mem_idxOps.mp hc
  cases opc with
  | cleanSessions t =>
    simp only
    by_cases hr : q < kk ∧ kk < p.2
    · obtain ⟨stamp, ⟨i, r, hiq, hgi, hty, hses⟩, hle⟩ := hcl kk t hr.1 hr.2 hgk
      refine Bool.or_eq_true_iff.mpr (Or.inr (List.any_eq_true.mpr ⟨(i, Op.audit r stamp), mem_idxOps.mpr hgi, ?_⟩))
      simp only [Bool.and_eq_true, decide_eq_true_eq]
      exact ⟨⟨⟨hiq, hty⟩, hses⟩, hle⟩
    · refine Bool.or_eq_true_iff.mpr (Or.inl ?_)
      simp only [Bool.not_eq_true', Bool.and_eq_false_iff, decide_eq_false_iff_not]
      exact (Classical.not_and_iff_not_or_not.mp hr)
  | remoteLogin l => rfl
  | audit e' n' => rfl
  | cleanLogins t => rfl

end AM.C16L
