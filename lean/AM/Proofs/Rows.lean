import AM.Proofs.SshdCommon
import AM.Proofs.EntryTable
/-! What `ProcessEntry` does on a line is decided by ONE row. The literal a condition demands at the start
of a line and, for an expression anchored at both ends, at its end make the rows of each dispatch table
pairwise exclusive, so a row whose condition holds is the row that is found: no walk along the table. A
`Row` is such a row with the function its name resolves to; for a `simple p mk` row and a line built from
the pieces the expression is forced to cut out, the observation is written down directly, and
`form_of_simple` reads it as the statement of C06 for a message form. -/
namespace AM.Rx

def buildAcc (acc : Str) : List Item → List Str → Str
  | [], _ => acc
  | .lit l :: is, ps => buildAcc (acc ++ l) is ps
  | .one _ :: is, x :: ps => buildAcc (acc ++ x) is ps
  | .one _ :: is, [] => buildAcc acc is []
  | .rep _ _ _ :: is, x :: ps => buildAcc (acc ++ x) is ps
  | .rep _ _ _ :: is, [] => buildAcc acc is []

/-- `build` associated to the left, as the specification writes its lines: `lineOf f fs = some (buildL p.items ps)`
is `rfl` (the first literal is taken as it stands, so that the check never looks inside it) -/
def buildL : List Item → List Str → Str
  | .lit l :: is, ps => buildAcc l is ps
  | is, ps => buildAcc [] is ps

theorem buildAcc_eq (acc : Str) (is : List Item) (ps : List Str) : buildAcc acc is ps = acc ++ build is ps := by
  induction is generalizing acc ps with
  | nil => simp [buildAcc, build]
  | cons it is ih =>
    cases it <;> cases ps <;> simp [buildAcc, build, ih]

/-- `++ []` is the `++ tr` of `find_of_forced`, with nothing after the match -/
theorem buildL_eq (is : List Item) (ps : List Str) : buildL is ps = build is ps ++ [] := by
  unfold buildL
  split <;> simp [buildAcc_eq, build]

end AM.Rx

namespace AM.Sshd
open AM.Rx AM.Spec AM.Gen

/-- the literal every line the condition holds on starts with -/
def _root_.AM.Gen.Cond.head : Cond → Option Str
  | .pfx s => some s
  | .re p => if p.anchS then (match p.items with | .lit l :: _ => some l | _ => none) else none

/-- the literal every line the condition holds on ends with, reversed -/
def _root_.AM.Gen.Cond.last : Cond → Option Str
  | .pfx _ => none
  | .re p => if p.anchS && p.anchE then
      (match p.items.getLast? with | some (.lit l) => some l.reverse | _ => none) else none

theorem _root_.AM.Gen.Cond.head_spec {c : Cond} {k : Str} (hk : c.head = some k) :
    c = .pfx k ∨ ∃ p is, c = .re p ∧ p.anchS = true ∧ p.items = .lit k :: is := by
  cases c with
  | pfx s => cases hk; exact Or.inl rfl
  | re p =>
    simp only [Cond.head] at hk
    split at hk
    · rename_i hs
      split at hk
      · rename_i l is hi
        cases hk
        exact Or.inr ⟨p, is, rfl, hs, hi⟩
      · cases hk
    · cases hk

theorem _root_.AM.Gen.Cond.head_prefix {c : Cond} {k line : Str} (hk : c.head = some k)
    (h : c.holds line = true) : k <+: line := by
  apply List.isPrefixOf_iff_prefix.mp
  rcases Cond.head_spec hk with rfl | ⟨p, is, rfl, hs, hi⟩
  · exact h
  · exact isMatch_lit_prefix p k is line hs hi h

theorem _root_.AM.Gen.Cond.last_prefix {c : Cond} {l line : Str} (hl : c.last = some l)
    (h : c.holds line = true) : l <+: line.reverse := by
  cases c with
  | pfx s => cases hl
  | re p =>
    simp only [Cond.last, Bool.and_eq_true] at hl
    split at hl
    · rename_i hse
      split at hl
      · rename_i l' hi
        cases hl
        obtain ⟨is, hi⟩ := List.getLast?_eq_some_iff.mp hi
        exact List.reverse_prefix.mpr (isMatch_lit_suffix p is l' line hse.1 hse.2 hi h)
      · cases hl
    · cases hl

def clash : Option Str → Option Str → Bool
  | some x, some y => mismatch x y
  | _, _ => false

theorem clash_spec : ∀ {a b : Option Str}, clash a b = true → ∃ x y, a = some x ∧ b = some y ∧ mismatch x y = true
  | some x, some y, h => ⟨x, y, rfl, rfl, h⟩
  | none, _, h => by cases h
  | some _, none, h => by cases h

/-- no line satisfies both conditions: the literals they demand at the start, or at the end, differ -/
def _root_.AM.Gen.Cond.excl (c d : Cond) : Bool := clash c.head d.head || clash c.last d.last

theorem _root_.AM.Gen.Cond.excl_sound {c d : Cond} {line : Str} (h : c.excl d = true)
    (hc : c.holds line = true) (hd : d.holds line = true) : False := by
  simp only [Cond.excl, Bool.or_eq_true] at h
  rcases h with h | h
  · obtain ⟨x, y, hx, hy, hm⟩ := clash_spec h
    exact mismatch_prefixes hm (Cond.head_prefix hx hc) (Cond.head_prefix hy hd)
  · obtain ⟨x, y, hx, hy, hm⟩ := clash_spec h
    exact mismatch_prefixes hm (Cond.last_prefix hx hc) (Cond.last_prefix hy hd)

def Exclusive (t : List DCase) : Prop := t.Pairwise fun a b => a.cond.excl b.cond = true

instance (t : List DCase) : Decidable (Exclusive t) := by unfold Exclusive; infer_instance

theorem firstCase_of_holds {t : List DCase} (ht : Exclusive t) {c : DCase} {line : Str}
    (hc : c ∈ t) (hh : c.cond.holds line = true) : firstCase t line = some c := by
  induction t with
  | nil => cases hc
  | cons d r ih =>
    obtain ⟨hd, hr⟩ := List.pairwise_cons.mp ht
    rcases List.mem_cons.mp hc with rfl | hc
    · simp [firstCase, List.find?, hh]
    · have : d.cond.holds line = false := by
        cases hdl : d.cond.holds line with
        | false => rfl
        | true => exact (Cond.excl_sound (hd c hc) hdl hh).elim
      simp only [firstCase, List.find?, this]
      exact ih hr hc

theorem exclusive_of_heads {t : List DCase} {ks : List Str}
    (ht : t.map (fun c => c.cond.head) = ks.map some)
    (hk : ks.Pairwise fun a b => mismatch a b = true) : Exclusive t := by
  have h1 : (ks.map some).Pairwise (fun a b => clash a b = true) := List.pairwise_map.mpr hk
  rw [← ht] at h1
  exact (List.pairwise_map.mp h1).imp (fun h => by simp [Cond.excl, h])

/-! What the two sweeps below cost is the decoding of the string literals (hence `+kernel`); `mismatch` stops
at the first difference, and the literals of `dispatch` are decoded once, as `Spec.keywords`. -/

/-- position by position: whoever regenerates `dispatch` or `Spec.keywords` keeps the other in step -/
theorem dispatch_head_eq : dispatch.map (fun c => c.cond.head) = keywords.map some := by rfl

theorem keywords_clash : keywords.Pairwise fun a b => mismatch a b = true := by decide +kernel

theorem dispatch_exclusive : Exclusive dispatch := exclusive_of_heads dispatch_head_eq keywords_clash

theorem userDispatch_exclusive : Exclusive userDispatch := by decide +kernel

theorem userDispatch_head : ∀ u ∈ userDispatch, u.cond.head = some "User ".toList := by decide

theorem dispatch_heads (c : DCase) (hc : c ∈ dispatch) : ∃ k, c.cond.head = some k ∧ k ∈ keywords := by
  have : c.cond.head ∈ keywords.map some := dispatch_head_eq ▸ List.mem_map_of_mem hc
  obtain ⟨k, hk, h⟩ := List.mem_map.mp this
  exact ⟨k, h.symm, hk⟩

theorem firstCase_some {t : List DCase} {line : Str} {c : DCase} (h : firstCase t line = some c) :
    c ∈ t ∧ c.cond.holds line = true :=
  ⟨List.mem_of_find?_eq_some h, by simpa using List.find?_some h⟩

theorem holds_hasKeyword {c : DCase} {line : Str} (hc : c ∈ dispatch) (h : c.cond.holds line = true) :
    hasKeyword line = true := by
  obtain ⟨k, hk, hkw⟩ := dispatch_heads c hc
  exact List.any_eq_true.mpr ⟨k, hkw, List.isPrefixOf_iff_prefix.mpr (Cond.head_prefix hk h)⟩

theorem user_row :
    dispatch[4]? = some ⟨.pfx "User ".toList, "userTypeLogAuditFn()", [("unknown", "failure")]⟩ := rfl

/-- a row of `dispatch`, or of the `User ` table behind row 4, with its function and the increments made on the
way to it; the hypotheses of either constructor are `rfl` for a concrete index -/
inductive Row : DCase → EntryFn → List Eff → Prop
  | main (i : Nat) {c : DCase} {f : EntryFn} : dispatch[i]? = some c → dispatchFns[i]? = some (some f) →
      Row c f (incEffs c)
  | user (i : Nat) {u : DCase} {f : EntryFn} : userDispatch[i]? = some u →
      userDispatchFns[i]? = some (some f) → Row u f (.inc "unknown" "failure" :: incEffs u)

theorem process_row (cfg : Cfg) (pid : Str) (ok : Bool) (h : Handoff) {c : DCase} {f : EntryFn}
    {pre : List Eff} {line : Str} (hr : Row c f pre) (hh : c.cond.holds line = true) :
    process cfg pid line ok h = ⟨pre ++ (f cfg pid line ok h).effs, (f cfg pid line ok h).res⟩ := by
  cases hr with
  | main i hrow hfn =>
    have hf := entryOf_of_row dispatchFns_eq hrow hfn
    refine process_of_case cfg pid line ok h c f
      (firstCase_of_holds dispatch_exclusive (List.mem_of_getElem? hrow) hh) ?_ hf
    intro hn
    rw [hn, entryOf_of_row dispatchFns_eq user_row rfl] at hf
    cases hf
  | user i hrow hfn =>
    have hu := List.mem_of_getElem? hrow
    have hp : (Cond.pfx "User ".toList).holds line = true :=
      List.isPrefixOf_iff_prefix.mpr (Cond.head_prefix (userDispatch_head c hu) hh)
    rw [process_of_user_case cfg pid line ok h _ c f
      (firstCase_of_holds dispatch_exclusive (List.mem_of_getElem? user_row) hp) rfl
      (firstCase_of_holds userDispatch_exclusive hu hh) (entryOf_of_row userDispatchFns_eq hrow hfn)]
    rfl

theorem holds_built {p : Pat} {ps : List Str} {tr : Str} (hF : Forced p.items p.anchE ps tr) :
    (Cond.re p).holds (build p.items ps ++ tr) = true := by
  simp [Cond.holds, Pat.isMatch, find_of_forced hF]

theorem process_simple (cfg : Cfg) (pid : Str) (ok : Bool) (h : Handoff) {c : DCase} {p : Pat}
    {mk : Cfg → Str → List Str → Ev} {pre : List Eff} {ps : List Str} (hr : Row c (simple p mk) pre)
    (hcond : c.cond = .re p) (hF : Forced p.items p.anchE ps []) :
    process cfg pid (buildL p.items ps) ok h =
      ⟨pre ++ [.write (mk cfg pid (capsOf p.items ps)) ok], if ok then .nil else .err⟩ := by
  rw [buildL_eq, process_row cfg pid ok h hr (hcond ▸ holds_built hF), simple_hit p mk cfg pid ok h (find_of_forced hF)]
  rfl

def startsWith (k : Str) : List Item → Bool
  | .lit l :: _ => k.isPrefixOf l
  | _ => false

theorem pfx_holds_append {k l : Str} (t : Str) (hk : k.isPrefixOf l = true) :
    (Cond.pfx k).holds (l ++ t) = true :=
  List.isPrefixOf_iff_prefix.mpr ((List.isPrefixOf_iff_prefix.mp hk).trans (List.prefix_append _ _))

theorem pfx_holds_built {k : Str} (is : List Item) (ps : List Str) (tr : Str)
    (hk : startsWith k is = true) : (Cond.pfx k).holds (build is ps ++ tr) = true := by
  match is, hk with
  | .lit l :: is, hk =>
    rw [build, List.append_assoc]
    exact pfx_holds_append _ hk

theorem writeAndSend_pre (pre pre' : List Eff) (e : Ev) (ok : Bool) (h : Handoff) (n : Int) (c : Str) :
    (⟨pre ++ (writeAndSend pre' e ok h n c).effs, (writeAndSend pre' e ok h n c).res⟩ : Out) =
      writeAndSend (pre ++ pre') e ok h n c := by
  cases ok <;> cases h <;> simp [writeAndSend]

theorem expectedOut_accepted {cfg : Cfg} {pid : Str} {f : Form} {fs : List Str} {e : Ev} {n : Int}
    (ok : Bool) (h : Handoff) (ha : f.accepted = true) (he : expectedEv cfg pid f fs = some e)
    (hn : atoi pid = some n) :
    expectedOut cfg pid f fs ok h =
      some (writeAndSend [.inc (expectedInc f).1 (expectedInc f).2] e ok h n (expectedCred f fs)) := by
  cases ok <;> cases h <;> simp [expectedOut, he, ha, hn, writeAndSend]

theorem form_of_process {cfg : Cfg} {pid : Str} {f : Form} {fs : List Str} {ok : Bool} {h : Handoff}
    {line : Str} {o : Out} (hl : lineOf f fs = some line) (hp : process cfg pid line ok h = o)
    (he : expectedOut cfg pid f fs ok h = some o) :
    ∀ line', lineOf f fs = some line' → some (process cfg pid line' ok h) = expectedOut cfg pid f fs ok h := by
  intro line' hl'
  rw [hl] at hl'
  cases hl'
  rw [hp, he]

/-- `hl` and `he` are `rfl` once the row is known -/
theorem form_of_simple {cfg : Cfg} {pid : Str} {f : Form} {fs : List Str} {ok : Bool} {h : Handoff}
    {c : DCase} {p : Pat} {mk : Cfg → Str → List Str → Ev} {pre : List Eff} {ps : List Str}
    (hr : Row c (simple p mk) pre) (hcond : c.cond = .re p) (hF : Forced p.items p.anchE ps [])
    (hl : lineOf f fs = some (buildL p.items ps))
    (he : expectedOut cfg pid f fs ok h =
      some ⟨pre ++ [.write (mk cfg pid (capsOf p.items ps)) ok], if ok then .nil else .err⟩) :
    ∀ line, lineOf f fs = some line → some (process cfg pid line ok h) = expectedOut cfg pid f fs ok h :=
  form_of_process hl (process_simple cfg pid ok h hr hcond hF) he

end AM.Sshd
