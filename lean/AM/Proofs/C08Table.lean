import AM.Model.Workers
/-! The audit processor's automaton (`rstep`) has 144 states: that it settles from each state that can
occur is one kernel evaluation per way of being cancelled. C13 (`processor_stops`) and C08 (`group_stops`)
both read their cases off these two tables. -/
namespace AM.C08
open AM.Wk

/-- the states of the audit processor that can occur (with the join in place) -/
def RS.reach (s : RS) : Bool :=
  !s.late &&
  (match s.main with
   | .selecting => !s.wcancel
   | .failing => !s.wcancel
   | .joining => s.wcancel
   | .returned => s.wcancel && s.parser == .exited && s.maint == .exited)

def allMain : List MPhase := [.selecting, .failing, .joining, .returned]
def allG : List GPhase := [.idle, .busy, .exited]
def allRS : List RS :=
  allMain.flatMap fun a => allG.flatMap fun p => allG.flatMap fun m =>
    [true, false].flatMap fun w => [true, false].map fun l => ⟨a, p, m, w, l⟩

theorem mem_allRS (s : RS) : s ∈ allRS := by
  obtain ⟨a, p, m, w, l⟩ := s
  have ha : a ∈ allMain := by cases a <;> simp [allMain]
  have hp : p ∈ allG := by cases p <;> simp [allG]
  have hm : m ∈ allG := by cases m <;> simp [allG]
  have hw : w ∈ [true, false] := by cases w <;> simp
  have hl : l ∈ [true, false] := by cases l <;> simp
  simp only [allRS, List.mem_flatMap, List.mem_map]
  exact ⟨a, ha, p, hp, m, hm, w, hw, l, hl, rfl⟩

/-- the finite table: every reachable state settles (cancelled from outside, or on its way out) -/
theorem table_cancelled : allRS.all (fun s => !(RS.reach s) || rsettles Core.ok true 8 s) = true := by
  decide +kernel

theorem table_own : allRS.all (fun s => !(RS.reach s) || s.main == .selecting || rsettles Core.ok false 8 s) = true := by
  decide +kernel

theorem processor_settles (s : RS) (c : Bool) (hr : RS.reach s = true)
    (hc : c = true ∨ s.main ≠ .selecting) : rsettles Core.ok c 8 s = true := by
  cases c
  · simpa [hr, hc.resolve_left Bool.false_ne_true] using List.all_eq_true.mp table_own s (mem_allRS s)
  · simpa [hr] using List.all_eq_true.mp table_cancelled s (mem_allRS s)

end AM.C08
