import AM.Proofs.TrackerInv
/-! C04: the tracker is silent about what it cannot attribute. For every history and every write
oracle, an emitted event belongs to a real (non-empty, not "unset") session whose LOGIN record
was delivered, and carries an SSH login that was delivered and whose PID is the LOGIN record's. -/
namespace AM.C04
open AM.Tr

theorem silence (failAt : Option Nat) (h : List Op) (em : Emitted) :
    em ∈ (run { failAt := failAt } h).1.out →
      em.ev.ses ≠ [] ∧ em.ev.ses ≠ strOf "unset" ∧ em.ev ∈ auditsOf h ∧ em.login ∈ loginsOf h ∧
      ∃ r ∈ auditsOf h, r.typ = .login ∧ r.ses = em.ev.ses ∧ atoi r.pidTok = some em.login.pid := by
  intro hem
  obtain ⟨h1, h2, _, r, hr, ht, hs, hp, hne, hnu⟩ := (inv_run_init failAt h).outOk em hem
  exact ⟨hne, hnu, h1, h2, r, hr, ht, hs, hp⟩

/-- emitted events are never retracted (so `silence` holds at every prefix) -/
theorem out_monotone (st : St) (op : Op) : ∃ new, (step st op).1.out = st.out ++ new :=
  out_step st op

theorem out_monotone_run (st : St) (ops : List Op) : ∃ new, (run st ops).1.out = st.out ++ new :=
  out_run st ops

/-- what a prefix of the history emitted stays emitted (and `silence` speaks about it relative to
that prefix alone) -/
theorem out_monotone_prefix (failAt : Option Nat) (h h' : List Op) :
    ∃ new, (run { failAt := failAt } (h ++ h')).1.out = (run { failAt := failAt } h).1.out ++ new :=
  out_run_prefix _ h h'

/-- the events really came from the operations that were executed (those after the first error
contribute nothing) -/
theorem silence_executed (failAt : Option Nat) (h : List Op) (em : Emitted) :
    em ∈ (run { failAt := failAt } h).1.out →
      em.ev ∈ auditsOf (executed { failAt := failAt } h) ∧
      em.login ∈ loginsOf (executed { failAt := failAt } h) ∧
      ∃ r ∈ auditsOf (executed { failAt := failAt } h),
        r.typ = .login ∧ r.ses = em.ev.ses ∧ atoi r.pidTok = some em.login.pid := by
  intro hem
  have hi := inv_run_executed [] { failAt := failAt } h (inv_init failAt)
  rw [List.nil_append] at hi
  obtain ⟨h1, h2, _, r, hr, ht, hs, hp, _, _⟩ := hi.outOk em hem
  exact ⟨h1, h2, r, hr, ht, hs, hp⟩

end AM.C04
