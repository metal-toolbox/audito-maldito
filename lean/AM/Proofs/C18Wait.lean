import AM.Model.Health
/-! C18, `WaitForReady`: waiting for readiness completes only after every registered component was ready, and
yields the context's error if the context is cancelled first — for every interleaving of registrations,
ready-marks, ticks and the cancellation. -/
namespace AM.C18W
open AM.Health

theorem result_sticky (st : WSt) (i : WIn) {r : WRes} (h : st.res = some r) : (wstep st i).res = some r := by
  cases i <;> simp [wstep, h]

theorem wstep_closed {st : WSt} {i : WIn} (h : (wstep st i).res = some .closed) :
    st.res = some .closed ∨ (i = .tick ∧ isReady st.m = true) := by
  cases i <;> simp only [wstep] at h
  · exact .inl h
  · split at h
    · rename_i hc; simp only [Bool.and_eq_true] at hc; exact .inr ⟨rfl, hc.2⟩
    · exact .inl h
  · exact .inl h
  · split at h
    · cases h
    · exact .inl h

theorem wstep_ctxErr {st : WSt} {i : WIn} (h : (wstep st i).res = some .ctxErr) :
    st.res = some .ctxErr ∨ st.cancelled = true := by
  cases i <;> simp only [wstep] at h
  · exact .inl h
  · split at h
    · cases h
    · exact .inl h
  · exact .inl h
  · split at h
    · rename_i hc; simp only [Bool.and_eq_true] at hc; exact .inr hc.2
    · exact .inl h

theorem wstep_cancelled (st : WSt) (i : WIn) :
    (wstep st i).cancelled = true ↔ st.cancelled = true ∨ i = .cancel := by
  cases i <;> simp [wstep] <;> split <;> simp

theorem wstep_m (st : WSt) (i : WIn) : (wstep st i).m = match i with | .op o => apply st.m o | _ => st.m := by
  cases i <;> simp [wstep] <;> split <;> rfl

theorem wrun_cancelled (st : WSt) (l : List WIn) :
    (wrun st l).cancelled = true ↔ st.cancelled = true ∨ WIn.cancel ∈ l := by
  induction l generalizing st with
  | nil => simp [wrun]
  | cons i is ih =>
    rw [show wrun st (i :: is) = wrun (wstep st i) is from rfl, ih, wstep_cancelled]
    simp only [List.mem_cons, or_assoc, eq_comm (a := i)]

/-- what has been seen so far: the channel is closed only if some tick found every component ready;
the error is handed over only after the cancellation -/
structure WInv (seen : List WIn) (st : WSt) : Prop where
  closed : st.res = some .closed →
    ∃ pre post, seen = pre ++ .tick :: post ∧ isReady (wrun {} pre).m = true
  err : st.res = some .ctxErr → st.cancelled = true
  canc : st.cancelled = true → WIn.cancel ∈ seen
  same : st.m = (wrun {} seen).m

theorem wrun_append (st : WSt) (a b : List WIn) : wrun st (a ++ b) = wrun (wrun st a) b := by
  simp [wrun, List.foldl_append]

theorem inv_step (seen : List WIn) (st : WSt) (i : WIn) (h : WInv seen st) : WInv (seen ++ [i]) (wstep st i) := by
  refine ⟨fun hc => ?_, fun he => ?_, fun hcn => ?_, ?_⟩
  · rcases wstep_closed hc with hold | ⟨rfl, hr⟩
    · obtain ⟨pre, post, hs, hr⟩ := h.closed hold
      exact ⟨pre, post ++ [i], by simp [hs], hr⟩
    · exact ⟨seen, [], rfl, h.same ▸ hr⟩   -- closed by this very tick
  · exact (wstep_cancelled st i).mpr (.inl ((wstep_ctxErr he).elim h.err id))
  · rcases (wstep_cancelled st i).mp hcn with hold | rfl
    · exact List.mem_append_left _ (h.canc hold)
    · simp
  · rw [wrun_append, wstep_m, h.same]; exact (wstep_m _ i).symm

theorem inv_run (ins : List WIn) : WInv ins (wrun {} ins) :=
  foldl_induction (I := WInv) inv_step [] {} ins ⟨by simp, by simp, by simp, rfl⟩

/-- **Waiting completes only after the condition held**: if the channel is closed, some tick found every
registered component ready (in the state reached by the registrations and ready-marks before it) -/
theorem wait_closed_only_when_ready (ins : List WIn) (h : (wrun {} ins).res = some .closed) :
    ∃ pre post, ins = pre ++ .tick :: post ∧ isReady (wrun {} pre).m = true :=
  (inv_run ins).closed h

/-- the context's error is what the caller gets only if the context was cancelled -/
theorem wait_error_only_after_cancel (ins : List WIn) (h : (wrun {} ins).res = some .ctxErr) :
    WIn.cancel ∈ ins :=
  (inv_run ins).canc ((inv_run ins).err h)

/-- **… and yields the context's error if cancelled first**: if no tick before the waiter's `ctx.Done()` arm
found every component ready, the caller gets the error — whatever happens afterwards (later ticks, late
ready-marks, however late the caller looks) -/
theorem cancelled_first_yields_error (pre post : List WIn) (hc : WIn.cancel ∈ pre)
    (hnone : (wrun {} pre).res = none) :
    (wrun {} (pre ++ .ctxArm :: post)).res = some .ctxErr := by
  rw [wrun_append]
  have hcan := (wrun_cancelled {} pre).mpr (.inr hc)
  have : (wstep (wrun {} pre) .ctxArm).res = some .ctxErr := by simp [wstep, hnone, hcan]
  exact List.foldlRecOn post wstep this fun s hs i _ => result_sticky s i hs

/-- the bounded send is NOT equivalent: one tick without a receiver after the cancellation and the caller is
told "ready" although a component never became ready -/
theorem bounded_send_reports_ready :
    let ins := [WIn.op (.add "auditd".toList), .cancel, .ctxArm, .tick]
    (ins.foldl wstepBounded {}).res = some .closed ∧ (wrun {} ins).res = some .ctxErr ∧
      isReady (wrun {} ins).m = false := by decide

end AM.C18W
