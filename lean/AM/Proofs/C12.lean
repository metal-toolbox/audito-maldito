import AM.Model.Pipe
/-! # C12 — pipe framing: each terminated record delivered once, in order, for any chunking

`chunk_independent`: however the byte stream is partitioned into reads, the ingester model hands
the callback exactly the delimiter-terminated records of the concatenation (each with its
delimiter), in order, up to and including the record at which the callback fails, and returns
that error; otherwise it returns the end-of-stream error. `tail_never_delivered`: the bytes after
the last delimiter are in no delivered record. -/
namespace AM.C12
open AM.Pipe

theorem records_append (d : Char) (acc xs ys : Str) :
    records d acc (xs ++ ys) =
      ((records d acc xs).1 ++ (records d (records d acc xs).2 ys).1,
       (records d (records d acc xs).2 ys).2) := by
  induction xs generalizing acc with
  | nil => simp [records]
  | cons b bs ih =>
    simp only [List.cons_append, records]
    split
    · simp [ih]
    · exact ih _

theorem records_nodelim (d : Char) (a b : Str) (hb : d ∉ b) : records d a b = ([], a ++ b) := by
  induction b generalizing a with
  | nil => simp [records]
  | cons x r ih =>
    have hx : x ≠ d := fun e => hb (e ▸ List.mem_cons_self)
    simp only [records, hx, if_false]
    rw [ih _ (fun hm => hb (List.mem_cons_of_mem _ hm))]
    simp

theorem records_acc (d : Char) (acc xs : Str) (h : d ∉ acc) :
    records d [] (acc ++ xs) = records d acc xs := by
  rw [records_append, records_nodelim d [] acc h]; simp

theorem records_flatten (d : Char) (acc s : Str) :
    (records d acc s).1.flatten ++ (records d acc s).2 = acc ++ s := by
  induction s generalizing acc with
  | nil => simp [records]
  | cons b bs ih =>
    simp only [records]
    split
    · simpa using ih []
    · simpa using ih (acc ++ [b])

theorem records_framed (d : Char) (acc s : Str) (hacc : d ∉ acc) :
    (∀ r ∈ (records d acc s).1, ∃ body, r = body ++ [d] ∧ d ∉ body) ∧ d ∉ (records d acc s).2 := by
  induction s generalizing acc with
  | nil => simp [records, hacc]
  | cons b bs ih =>
    simp only [records]
    split
    · rename_i hb
      subst hb
      obtain ⟨h2, h3⟩ := ih [] (by simp)
      exact ⟨List.forall_mem_cons.mpr ⟨⟨acc, rfl, hacc⟩, h2⟩, h3⟩
    · rename_i hb
      exact ih (acc ++ [b]) (by simp [hacc, Ne.symm hb])

/-! `deliver` is a left action of the list of records on the state that stops at the first failure, and it does
not look at `pending`: so feeding chunk after chunk delivers the records of the concatenation. -/

theorem deliver_failed {failAt : Option Nat} {st : PSt} {rs : List Str} (h : st.failed = true) :
    deliver failAt st rs = st := by
  cases rs <;> simp [deliver, h]

theorem deliver_append (failAt : Option Nat) (st : PSt) (a b : List Str) :
    deliver failAt st (a ++ b) = deliver failAt (deliver failAt st a) b := by
  induction a generalizing st with
  | nil => rfl
  | cons r rs ih =>
    simp only [List.cons_append, deliver]
    split
    · rename_i h; rw [deliver_failed h]
    · exact ih _

theorem deliver_setPending (failAt : Option Nat) (st : PSt) (p : Str) (rs : List Str) :
    deliver failAt (setPending st p) rs = setPending (deliver failAt st rs) p := by
  induction rs generalizing st with
  | nil => rfl
  | cons r rs ih =>
    have hf : (setPending st p).failed = st.failed := rfl
    simp only [deliver, hf]
    split
    · rfl
    · exact ih (call failAt st r)

/-- `∃ p`: `pending` stops being updated after a failure -/
theorem fold_feed (d : Char) (failAt : Option Nat) (chunks : List Str) (st : PSt) :
    ∃ p, chunks.foldl (feed d failAt) st =
      setPending (deliver failAt st (records d st.pending chunks.flatten).1) p := by
  induction chunks generalizing st with
  | nil => exact ⟨st.pending, rfl⟩
  | cons c cs ih =>
    by_cases hf : st.failed = true
    · obtain ⟨p, hp⟩ := ih st
      exact ⟨p, by simp [feed, hf, deliver_failed, hp]⟩
    · obtain ⟨p, hp⟩ := ih (feed d failAt st c)
      refine ⟨p, ?_⟩
      rw [List.foldl_cons, hp]
      simp only [feed, hf, if_false, Bool.false_eq_true, deliver_setPending, List.flatten_cons, records_append,
        deliver_append]
      rfl

theorem deliver_none (st : PSt) (rs : List Str) (hf : st.failed = false) :
    (deliver none st rs).out = st.out ++ rs ∧ (deliver none st rs).failed = false := by
  induction rs generalizing st with
  | nil => simp [deliver, hf]
  | cons r rs ih =>
    obtain ⟨h1, h2⟩ := ih (call none st r) (by simp [call])
    simp only [deliver, hf, Bool.false_eq_true, if_false, h1, h2]
    simp [call]

/-- after `st.calls ≤ k` calls without failure the callback fails at the record of index `k - st.calls` -/
theorem deliver_some (k : Nat) (st : PSt) (rs : List Str) (hf : st.failed = false) (hc : st.calls ≤ k) :
    (deliver (some k) st rs).out = st.out ++ rs.take (k + 1 - st.calls) ∧
    (deliver (some k) st rs).failed = decide (k - st.calls < rs.length) := by
  induction rs generalizing st with
  | nil => simp [deliver, hf]
  | cons r rs ih =>
    simp only [deliver, hf, Bool.false_eq_true, if_false]
    by_cases hk : k = st.calls
    · rw [deliver_failed (by simp [call, hk])]
      simp [call, hk]
    · obtain ⟨h1, h2⟩ := ih (call (some k) st r) (by simp [call, hk]) (by simp only [call]; omega)
      have e : k + 1 - st.calls = (k + 1 - (st.calls + 1)) + 1 := by omega
      rw [h1, h2, e]
      simp only [call, List.take_succ_cons, List.length_cons, List.append_assoc, List.singleton_append,
        true_and]
      exact decide_eq_decide.mpr (by omega)

/-- C12: delivery and result depend only on the concatenation of the chunks, and are what the
property prescribes -/
theorem run_eq_expected (d : Char) (failAt : Option Nat) (chunks : List Str) :
    run d failAt chunks = expected d failAt chunks.flatten := by
  obtain ⟨p, hp⟩ := fold_feed d failAt chunks {}
  simp only [run, expected, hp, setPending]
  cases failAt with
  | none => simp [deliver_none {} _ rfl]
  | some k =>
    obtain ⟨h1, h2⟩ := deliver_some k {} (records d [] chunks.flatten).1 rfl (Nat.zero_le _)
    simp only [h1, h2, List.nil_append, Nat.sub_zero, decide_eq_true_eq]
    split
    · rfl
    · rw [List.take_of_length_le (by omega)]

theorem chunk_independent (d : Char) (failAt : Option Nat) (c1 c2 : List Str)
    (h : c1.flatten = c2.flatten) : run d failAt c1 = run d failAt c2 := by
  rw [run_eq_expected, run_eq_expected, h]

/-- bytes after the last delimiter are never delivered: the delivered records are a prefix of the
records of the stream, whose concatenation stops at the last delimiter -/
theorem tail_never_delivered (d : Char) (failAt : Option Nat) (chunks : List Str) :
    ∃ recs, (run d failAt chunks).1 <+: recs ∧
      chunks.flatten = recs.flatten ++ (records d [] chunks.flatten).2 ∧
      d ∉ (records d [] chunks.flatten).2 := by
  refine ⟨(records d [] chunks.flatten).1, ?_, ?_, ?_⟩
  · rw [run_eq_expected]
    unfold expected
    cases failAt with
    | none => exact List.prefix_refl _
    | some k => simp only; split <;> first | exact List.take_prefix _ _ | exact List.prefix_refl _
  · simpa using (records_flatten d [] chunks.flatten).symm
  · exact (records_framed d [] chunks.flatten (by simp)).2

/-- end of stream is reported as an error, never as success; a callback error is returned -/
theorem result_is_error (d : Char) (failAt : Option Nat) (chunks : List Str) :
    (run d failAt chunks).2 = .eof ∨ (run d failAt chunks).2 = .cbError := by
  unfold run; simp only; split <;> simp

/-- non-vacuity: byte-at-a-time and all-at-once deliver the same two records and keep the tail -/
example : run '\n' none ["ab".toList, "\n".toList, "c".toList, "d\ne".toList] =
    (["ab\n".toList, "cd\n".toList], .eof) := by decide
example : run '\n' (some 0) ["ab\ncd\ne".toList] = (["ab\n".toList], .cbError) := by decide

/-! ### a stream of frames (records that end in the delimiter and do not contain it elsewhere) -/

theorem records_snoc (d : Char) (acc body : Str) (h : d ∉ body) :
    records d acc (body ++ [d]) = ([acc ++ body ++ [d]], []) := by
  rw [records_append, records_nodelim d acc body h]; simp [records]

theorem records_of_frames (d : Char) (fs : List Str)
    (h : ∀ f ∈ fs, ∃ body, f = body ++ [d] ∧ d ∉ body) : records d [] fs.flatten = (fs, []) := by
  induction fs with
  | nil => simp [records]
  | cons f rest ih =>
    obtain ⟨body, rfl, hb⟩ := h f List.mem_cons_self
    have ihr := ih (fun g hg => h g (List.mem_cons_of_mem _ hg))
    simp only [List.flatten_cons]
    rw [records_append, records_snoc d [] body hb]
    simp [ihr]

/-- frames written to the pipe, in whatever pieces, are delivered as they are -/
theorem run_frames {fs chunks : List Str} (h : ∀ f ∈ fs, ∃ body, f = body ++ ['\n'] ∧ '\n' ∉ body)
    (hc : chunks.flatten = fs.flatten) : (run '\n' none chunks).1 = fs := by
  rw [run_eq_expected, hc]
  simp only [expected, records_of_frames '\n' _ h]

end AM.C12
