import AM.Gen.Facts
import AM.Proofs.AuditTable
/-! # C15 — no audit record is skipped silently

About the audit-processor model (`AM.Model.AuditProc`), for every input list (lines with what the
parser makes of them, empty lines, logins, ticks, expiry, polls of the main loop, cancellation),
every write oracle of the correlator and every configuration. In this order: the parser thread (no
accepted line before the first rejected one is skipped; `Read` cannot get past a rejected line); the
error channels (which error `Read` returns; a pending error stops it; `Read` returning the context's
error means no callback or parser error was pending; the capacity of the callback's channel); the
reassembler (conservation per sequence number; whole events when no record comes late and nothing is
evicted by force; what bears on those two hypotheses); a run that meets them. The correlator inside the
processor (`processor_refines_tracker`, `emitted_justified`) is in `C15Lift`. -/
namespace AM.C15
open AM.AP AM.Tr

/-- **No silent skip.** Whatever else happens, the records pushed into the reassembler are exactly
the accepted lines among the consumed inputs up to the first rejected line, in order, and the
parser's pending error is that first rejected line. -/
theorem pushed_characterised (c : Cfg) (ins : List In) (st s : AP.St) (r : Option PErr) (k : Nat)
    (h : st.parserErr = none) (hrun : runCore c st ins = (s, r, k)) :
    s.pushed = st.pushed ++ acceptedUpto (ins.take k) ∧
    s.parserErr = (firstRej (ins.take k)).map .parse := by
  refine runCore_inv (P := fun s pre => s.pushed = st.pushed ++ acceptedUpto pre ∧
    s.parserErr = (firstRej pre).map .parse) ?_ ⟨by simp [acceptedUpto], by simp [firstRej, h]⟩ hrun
  intro s pre i ⟨h1, h2⟩
  have hs : (stepIn c s i).1.pushed = s.pushed ++ (reasm c s i).rs ∧
      (stepIn c s i).1.parserErr = (reasm c s i).perr := by
    obtain ⟨ops, errs, sl, hs, -⟩ := stepIn_nf c s i
    exact hs ▸ ⟨rfl, rfl⟩
  rw [hs.1, hs.2, (reasm_parser c s i).1, (reasm_parser c s i).2, h1, h2, acceptedUpto_append, firstRej_append]
  cases firstRej pre <;> simp

/-- **A rejected line is never skipped.** Whatever comes before and after it, the run does not get
past the main loop's next look at its channels: `Read` has returned by then. -/
theorem rejected_line_then_poll_stops (c : Cfg) (pre post : List In) (raw : Str) (st s : AP.St)
    (r : Option PErr) (k : Nat)
    (hrun : runCore c st (pre ++ .line raw none :: .poll :: post) = (s, r, k)) :
    r.isSome ∧ k ≤ pre.length + 2 := by
  rw [runCore_append] at hrun
  generalize hp : runCore c st pre = x at hrun
  obtain ⟨s1, r1, k1⟩ := x
  have hlen := runCore_len hp
  cases r1 with
  | some e =>
    cases hrun
    exact ⟨rfl, by omega⟩
  | none =>
    -- from any state: the line sets (or leaves) the parser's error, the poll returns it
    have key : ∃ s2 e, runCore c s1 (.line raw none :: .poll :: post) = (s2, some e, 2) := by
      cases hpe : s1.parserErr with
      | some e => exact ⟨s1, e, by simp [runCore, stepIn, hpe]⟩
      | none => exact ⟨{ s1 with parserErr := some (.parse raw) }, .parse raw, by simp [runCore, stepIn, hpe]⟩
    obtain ⟨s2, e, hk⟩ := key
    simp only [hk, Prod.mk.injEq] at hrun
    obtain ⟨-, rfl, rfl⟩ := hrun
    exact ⟨rfl, by omega⟩

theorem errInv_run {c : Cfg} {ins : List In} {st s : AP.St} {r : Option PErr} {k : Nat}
    (h : ErrInv st) (hrun : runCore c st ins = (s, r, k)) :
    (r = none ∧ ErrInv s) ∨ ∃ s0 i e, r = some e ∧ ErrInv s0 ∧ stepIn c s0 i = (s, some e) := by
  rcases runCore_ind (P := fun s _ => ErrInv s)
    (fun s _ i s' h hs => by simpa [hs] using errInv_stepIn c s i h (by rw [hs]))
    (done := []) h hrun with ⟨h1, _, h2⟩ | ⟨s0, _, i, _, e, _, _, he, hinv, hs⟩
  · exact Or.inl ⟨h1, h2⟩
  · exact Or.inr ⟨s0, i, e, he, hinv, hs⟩

theorem result_explained {c : Cfg} {ins : List In} {st s : AP.St} {e : PErr} {k : Nat}
    (h : ErrInv st) (hrun : runCore c st ins = (s, some e, k)) :
    (∀ raw, e = .parse raw → s.parserErr = some e) ∧ (cbKind e → s.cbErrs.head? = some e) := by
  rcases errInv_run h hrun with ⟨h, _⟩ | ⟨s0, i, e', he, hinv, hs⟩
  · cases h
  · cases he
    rcases stepIn_stop hs with ⟨_, x, _, rfl⟩ | ⟨_, hp, rfl⟩ | ⟨_, _, hsl, rfl⟩ | ⟨_, rfl, rfl⟩
    · exact ⟨fun _ h => (nomatch h), fun h => absurd h (not_cbKind_login x)⟩
    · obtain ⟨raw, rfl⟩ := hinv.parser_kind e hp
      exact ⟨fun _ _ => hp, fun h => absurd h (not_cbKind_parse raw)⟩
    · exact ⟨fun raw h => absurd (hinv.slot_kind hsl) (h ▸ not_cbKind_parse raw), fun _ => hsl ▸ hinv.slot_head.symm⟩
    · exact ⟨fun _ h => (nomatch h), fun h => absurd h not_cbKind_ctx⟩

/-- **The error identifies the offending line.** If `Read` returns a parse error, it carries the
first rejected line among the inputs consumed, and every accepted line before it was pushed. -/
theorem parse_error_names_first_rejected (c : Cfg) (ins : List In) (s : AP.St) (raw : Str) (k : Nat)
    (hrun : runCore c {} ins = (s, some (.parse raw), k)) :
    firstRej (ins.take k) = some raw ∧ s.pushed = acceptedUpto (ins.take k) := by
  obtain ⟨a, b⟩ := pushed_characterised c ins {} s _ k rfl hrun
  rw [(result_explained errInv_init hrun).1 raw rfl] at b
  refine ⟨?_, by simpa using a⟩
  cases hf : firstRej (ins.take k) <;> simp_all

/-- **The first correlator error is the one reported.** If `Read` returns a callback error, it is
the first error the callback produced: later ones never replace it in the one-slot channel. -/
theorem first_error_kept (c : Cfg) (ins : List In) (s : AP.St) (e : PErr) (k : Nat)
    (hrun : runCore c {} ins = (s, some e, k)) (hcb : cbKind e) : s.cbErrs.head? = some e :=
  (result_explained errInv_init hrun).2 hcb

/-- **A pending error stops `Read`.** In every state reached while `Read` is running, once the
callback has produced an error or the parser has stopped, the main loop's next look returns. -/
theorem pending_error_stops (c : Cfg) (ins : List In) (s : AP.St) (k : Nat)
    (hrun : runCore c {} ins = (s, none, k)) (hpend : s.cbErrs ≠ [] ∨ s.parserErr.isSome) :
    (stepIn c s .poll).2.isSome := by
  have hinv : ErrInv s := by
    rcases errInv_run errInv_init hrun with ⟨-, h⟩ | ⟨_, _, _, he, _⟩
    · exact h
    · cases he
  rw [stepIn_poll_res, hinv.slot_head]
  cases hp : s.parserErr <;> cases hc : s.cbErrs <;> simp_all

theorem ctx_is_cancel {c : Cfg} {st s : AP.St} {i : In} (hinv : ErrInv st) (hs : stepIn c st i = (s, some .ctx)) :
    i = .cancel ∧ s = st := by
  rcases stepIn_stop hs with ⟨_, _, _, h⟩ | ⟨_, hp, _⟩ | ⟨_, _, hsl, _⟩ | ⟨h1, _, h2⟩
  · cases h
  · obtain ⟨_, h⟩ := hinv.parser_kind _ hp
    cases h
  · exact absurd (hinv.slot_kind hsl) not_cbKind_ctx
  · exact ⟨h1, h2⟩

/-- with the main loop looking after every input: `Read` returns the context's error only if no
callback error was produced and no line was rejected before -/
theorem ctx_means_no_error_pending (c : Cfg) (ins : List In) (st s : AP.St) (k : Nat)
    (hinv : ErrInv st) (h0 : st.cbErrs = []) (hp0 : st.parserErr = none)
    (hrun : runCore c st (polled ins ++ [.cancel]) = (s, some .ctx, k)) :
    s.cbErrs = [] ∧ s.parserErr = none := by
  induction ins generalizing st k with
  | nil =>
    change runCore c st [.cancel] = _ at hrun
    rcases runCore_cons_some hrun with hs | ⟨_, _, _, h2⟩
    · rw [(ctx_is_cancel hinv hs).2]; exact ⟨h0, hp0⟩
    · cases h2
  | cons i rest ih =>
    -- stated in this form first: left to the unifier it is slow
    change runCore c st (i :: .poll :: (polled rest ++ [.cancel])) = _ at hrun
    rcases runCore_cons_some hrun with hs | ⟨s1, _, hs, h2⟩
    · rw [(ctx_is_cancel hinv hs).2]; exact ⟨h0, hp0⟩
    · have hinv1 : ErrInv s1 := by
        have := errInv_stepIn c st i hinv (by rw [hs])
        rwa [hs] at this
      rcases runCore_cons_some h2 with hs2 | ⟨s2, k2, hs2, h3⟩
      · cases (ctx_is_cancel hinv1 hs2).1
      · obtain ⟨hp1, hsl, rfl⟩ := stepIn_poll_go hs2
        exact ih s2 k2 hinv1 (List.head?_eq_none_iff.mp (hinv1.slot_head ▸ hsl)) hp1 h3

/-- any error of the correlator on a login is `Read`'s result -/
theorem login_error_stops (c : Cfg) (st : AP.St) (l : Login) (e : Tr.Err)
    (h : (Tr.remoteLogin st.tr l).2 = some e) : (stepIn c st (.login l)).2 = some (.login e) := by
  simp [stepIn, h]

/-- … in particular an invalid login stops the processor with the validation error -/
theorem invalid_login_stops (c : Cfg) (st : AP.St) (l : Login) (h : l.valid = false) :
    (stepIn c st (.login l)).2 = some (.login .badLogin) :=
  login_error_stops c st l .badLogin (congrArg (·.2) (Step.skip (.badLogin h)).eq)

/-- a correlator failure inside the callback is recorded (and is in the slot unless an earlier
error already is) -/
theorem correlator_error_noted (a : Time) (st : AP.St) (g : List Rec) (ev : AEvent) (e : Tr.Err)
    (hc : coalesce g = some ev) (ha : ¬ ev.ts < a) (he : (Tr.audit st.tr ev st.clock).2 = some e) :
    (callback a st g).cbErrs = st.cbErrs ++ [.cb e] ∧
    (callback a st g).slot = st.slot.orElse (fun _ => some (.cb e)) := by
  simp [callback, hc, ha, he, noteErr]

theorem coalesce_error_noted (a : Time) (st : AP.St) (g : List Rec) (hc : coalesce g = none) :
    (callback a st g).cbErrs = st.cbErrs ++ [.coalesce] ∧
    (callback a st g).slot = st.slot.orElse (fun _ => some .coalesce) := by
  simp [callback, hc, noteErr]

/-! ### the error channel has a slot (regenerated fact)

The model's `slot : Option PErr` stands for `reassemblerErrors`, into which the callback sends WITHOUT blocking.
Such a send succeeds iff the loop of `Read` happens to be waiting in its `select` at that instant or the channel
has room. The loop is not always waiting — it may be inside `tracker.RemoteLogin`, held up by the very callback
that is about to fail — so the first error survives only because the channel has capacity. `AM.Gen.reassemblerErrorsCap`
is read off `make(chan error, n)` in `Read` on every run. -/

/-- a non-blocking send on a channel of capacity `cap` currently holding `len` values -/
def trySend (cap len : Nat) (receiverWaiting : Bool) : Bool := receiverWaiting || decide (len < cap)

/-- with the capacity found in the working tree the first error is accepted even while the loop is busy … -/
theorem gen_error_slot : trySend Gen.reassemblerErrorsCap 0 false = true := by decide

/-- … and without a slot it would be dropped (the `default` arm), `Read` running on with the event lost -/
theorem no_slot_drops_error : trySend 0 0 false = false := by decide

theorem books_run {c : Cfg} {ins : List In} {st s : AP.St} {r : Option PErr} {k : Nat} (h : Books st)
    (hrun : runCore c st ins = (s, r, k)) : Books s :=
  runCore_inv (P := fun s _ => Books s) (fun s _ i h => books_stepIn c s i h) h hrun

/-- **Every pushed record is in exactly one place.** Per sequence number: the groups handed to the
callback, concatenated, followed by what is in flight, is exactly the list of non-EOE records
pushed, in arrival order — at every point of every run. -/
theorem conservation (c : Cfg) (ins : List In) (s : AP.St) (r : Option PErr) (k : Nat)
    (hrun : runCore c {} ins = (s, r, k)) (q : Nat) :
    s.delivered.flatten.filter (fun x => decide (x.seq = q)) ++ inflight s.fl q =
      s.pushed.filter (fun x => decide (x.seq = q) && (x.kind != .eoe)) :=
  (books_run books_init hrun).bal q

/-- when `Read` returns, the table is flushed: nothing stays in flight -/
theorem flushed_at_return (c : Cfg) (ins : List In) (s : AP.St) (e : PErr) (k : Nat)
    (hrun : AP.run c {} ins = (s, some e, k)) (q : Nat) :
    s.fl = [] ∧
    s.delivered.flatten.filter (fun x => decide (x.seq = q)) =
      s.pushed.filter (fun x => decide (x.seq = q) && (x.kind != .eoe)) := by
  obtain ⟨s', h, rfl⟩ := run_some hrun
  obtain ⟨h1, h2, -, h4, -⟩ := books_close c s' (books_run books_init h)
  exact ⟨h1, h2 ▸ h4 q⟩

/-- counting form: a non-EOE record was handed to the callback as often as it was pushed once the
table is flushed — never more, never less -/
theorem every_record_in_one_group (c : Cfg) (ins : List In) (s : AP.St) (e : PErr) (k : Nat)
    (hrun : AP.run c {} ins = (s, some e, k)) (x : Rec) (hx : x.kind ≠ .eoe) :
    s.delivered.flatten.count x = s.pushed.count x := by
  have h := congrArg (List.count x) (flushed_at_return c ins s e k hrun x.seq).2
  rwa [List.count_filter (by simp), List.count_filter (by simp [hx])] at h

/-- every group handed to the callback holds records of one sequence number only -/
theorem groups_uniform (c : Cfg) (ins : List In) (s : AP.St) (r : Option PErr) (k : Nat)
    (hrun : runCore c {} ins = (s, r, k)) :
    ∀ g ∈ s.delivered, ∀ x ∈ g, ∀ y ∈ g, x.seq = y.seq :=
  fun g hg x hx y hy => ((books_run books_init hrun).uniform g hg x hx).trans
    ((books_run books_init hrun).uniform g hg y hy).symm

/-- **Records of one kernel event form a single group, however they are interleaved with other
events.** If no non-EOE record of an event arrived after the record that ends it and nothing was
evicted by overflow or expiry, then when `Read` returns every group that was handed to the
callback is exactly the list of records of one kernel event (all of them, in order), and no two
groups belong to the same event. -/
theorem groups_are_whole_events (c : Cfg) (ins : List In) (s : AP.St) (e : PErr) (k : Nat)
    (hrun : AP.run c {} ins = (s, some e, k)) (hn : NoLate s.pushed) (hf : s.forced = false) :
    (∀ g ∈ s.delivered, g ≠ [] ∧
      g = s.pushed.filter (fun x => decide (x.seq = gseq g) && (x.kind != .eoe))) ∧
    (s.delivered.map gseq).Nodup := by
  obtain ⟨s', h, rfl⟩ := run_some hrun
  obtain ⟨-, h2, h3, h4, hu, h6⟩ := books_close c s' (books_run books_init h)
  obtain ⟨hne, hnd⟩ := h6 (h2 ▸ hn) (h3 ▸ hf)
  refine ⟨fun g hgm => ⟨hne g hgm, ?_⟩, hnd⟩
  rw [h2, ← h4 (gseq g)]
  exact (flatten_filter_group hu hnd g hgm).symm

/-- in particular no kernel event is split: two groups never share a sequence number -/
theorem one_group_per_event (c : Cfg) (ins : List In) (s : AP.St) (e : PErr) (k : Nat)
    (hrun : AP.run c {} ins = (s, some e, k)) (hn : NoLate s.pushed) (hf : s.forced = false)
    (g₁ g₂ : List Rec) (h₁ : g₁ ∈ s.delivered) (h₂ : g₂ ∈ s.delivered) (hs : gseq g₁ = gseq g₂) : g₁ = g₂ := by
  obtain ⟨hall, _⟩ := groups_are_whole_events c ins s e k hrun hn hf
  rw [(hall g₁ h₁).2, (hall g₂ h₂).2, hs]

/-- without expiry inputs and with fewer distinct events than the table holds, nothing is evicted
by force — the hypothesis `forced = false` of the grouping theorem is met -/
theorem no_force_of_small (c : Cfg) (fl : List (Nat × Entry)) (h : fl.length ≤ c.max) :
    (cleanUp c.max false fl).2.2 = false := by
  induction fl with
  | nil => rfl
  | cons p fl ih =>
    have hl : ¬ (fl.length + 1 > c.max) := Nat.not_lt.mpr h
    simp only [cleanUp, hl, decide_false, Bool.or_false]
    split
    · rename_i hc
      simp [ih (Nat.le_of_succ_le h), hc]
    · rfl

/-- executable form of `NoLate` -/
def noLateAux (pre : List Rec) : List Rec → Bool
  | [] => true
  | r :: post =>
    (r.kind == .eoe || pre.all (fun x => x.seq != r.seq || !closing x)) && noLateAux (pre ++ [r]) post

theorem noLateAux_sound (pre rs : List Rec) (h : noLateAux pre rs = true) :
    ∀ p r post, rs = p ++ r :: post → r.kind ≠ .eoe → ∀ x ∈ pre ++ p, x.seq = r.seq → closing x = false := by
  induction rs generalizing pre with
  | nil => intro p r post he; simp at he
  | cons a t ih =>
    simp only [noLateAux, Bool.and_eq_true, Bool.or_eq_true, beq_iff_eq, List.all_eq_true, bne_iff_ne,
      Bool.not_eq_eq_eq_not, Bool.not_true] at h
    intro p r post he hk x hx hs
    cases p with
    | nil =>
      simp only [List.nil_append, List.cons.injEq] at he
      obtain ⟨rfl, rfl⟩ := he
      rcases h.1 with h1 | h1
      · exact absurd h1 hk
      · simp only [List.append_nil] at hx
        rcases h1 x hx with h2 | h2
        · exact absurd hs h2
        · exact h2
    | cons b p' =>
      simp only [List.cons_append, List.cons.injEq] at he
      obtain ⟨rfl, rfl⟩ := he
      exact ih (pre ++ [a]) h.2 p' r post rfl hk x (by simpa [List.append_assoc] using hx) hs

theorem noLate_of_aux (rs : List Rec) (h : noLateAux [] rs = true) : NoLate rs := by
  intro p r post he hk x hx hs
  exact noLateAux_sound [] rs h p r post he hk x (by simpa using hx) hs

/-- the correspondence runs let "everything in flight expire" by waiting 3.2 s: that is longer than the reassembler's
time-out plus one maintenance period as found in the working tree (nanoseconds) -/
theorem gen_expiry_within_harness_wait : Gen.eventTimeout + Gen.reassemblerInterval ≤ 3200000000 := by decide

def mkRec (tag seq : Nat) (k : Kind) (ses pid : String) : Rec :=
  { seq := seq, kind := k, tag := tag, ts := 1600000000 + seq, typ := if k = .single then .login else .other,
    ses := ses.toList, pidTok := pid.toList, result := "success".toList, args := if k = .execve then ["a".toList] else [] }

def demoLogin : Login :=
  { pid := 77, cred := "alice".toList, hasSource := true, subjects := [("userID", "alice".toList)],
    srcType := "IP".toList, srcValue := "10.0.0.1".toList, srcExtra := [], target := [], loggedAt := 0 }

/-- a login, the LOGIN record of its session, then the records of three kernel events (2, 3, 4)
interleaved round-robin, then a rejected line -/
def demo : List In :=
  [ .login demoLogin,
    .line [] (some (mkRec 0 1 .single "5" "77")),
    .line [] (some (mkRec 1 2 .syscall "5" "77")), .line [] (some (mkRec 2 3 .syscall "5" "77")),
    .line [] (some (mkRec 3 4 .syscall "5" "77")),
    .line [] (some (mkRec 4 2 .execve "" "")), .line [] (some (mkRec 5 3 .execve "" "")),
    .line [] (some (mkRec 6 4 .execve "" "")),
    .empty,
    .line [] (some (mkRec 7 2 .title "" "")), .line [] (some (mkRec 8 3 .eoe "" "")),
    .line [] (some (mkRec 9 4 .title "" "")), .line [] (some (mkRec 10 4 .eoe "" "")),
    .line "garbage".toList none ]

/-- the demo stream satisfies the hypothesis of the grouping theorem -/
example : NoLate (AP.run {} {} (polled demo ++ [.cancel])).1.pushed := noLate_of_aux _ (by decide +kernel)

/-- the demo run stops with the parse error naming the rejected line, after handing over four
groups (sizes 1, 3, 2, 3: the LOGIN record and the three interleaved events, each whole) and
writing four events; nothing was force-evicted -/
example :
    (AP.run {} {} (polled demo ++ [.cancel])).2.1 = some (.parse "garbage".toList) ∧
    (AP.run {} {} (polled demo ++ [.cancel])).1.forced = false ∧
    (AP.run {} {} (polled demo ++ [.cancel])).1.delivered.map (fun g => (gseq g, g.length)) = [(1, 1), (2, 3), (3, 2), (4, 3)] ∧
    (AP.run {} {} (polled demo ++ [.cancel])).1.tr.out.length = 4 ∧
    (AP.run {} {} (polled demo ++ [.cancel])).1.cbErrs = [] := by
  decide +kernel

end AM.C15
