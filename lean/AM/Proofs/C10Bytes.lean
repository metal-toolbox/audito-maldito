import AM.Proofs.C10Daemon
import AM.Proofs.C07
/-! The assembled daemon fed with BYTES: whatever pieces the two pipes deliver their byte streams in, the
sshd pipeline sees the (PID, message) pairs of the framed records and the audit pipeline sees lines that split
as the bare audit lines do — so `C10D.end_to_end` applies to the daemon as it is wired in `RunNamedPipe`:
pipe ingester ∘ syslog ingester ∘ sshd processor on one side, pipe ingester ∘ audit log ingester ∘ audit
processor on the other. (Composition of C12, C07 and C10D; no new model.) -/
namespace AM.C10B
open AM.C07 AM.Dm

/-- what the sshd pipeline is given: every record the pipe ingester delivers, parsed by the syslog ingester -/
def sshdTodoOfPipe (chunks : List Str) : List (Str × Str × Bool) :=
  (Pipe.run '\n' none chunks).1.map fun rec => ((Syslog.parse rec).1, (Syslog.parse rec).2, true)

theorem sshdTodo_of_frames (recs : List (Str × Str × Str)) (chunks : List Str)
    (hwf : ∀ r ∈ recs, WfRec r) (hc : chunks.flatten = (recs.map frame).flatten) :
    sshdTodoOfPipe chunks = recs.map fun r => (r.1, r.2.2, true) := by
  unfold sshdTodoOfPipe
  rw [run_framed_recs hwf hc, List.map_map]
  apply List.map_congr_left
  intro r hr
  simp only [Function.comp, (hwf r hr).parse]

/-- **End to end, from bytes.** The sshd pipe carries framed records (any chunking); whatever the audit side
is fed and whatever the schedule, every UserAction in the output is preceded by the UserLogin event written for
one of those records, carries exactly that event's identity, and belongs to a session opened by a LOGIN record
with that record's PID. -/
theorem end_to_end_bytes (cfg : Sshd.Cfg) (f : Option Nat) (c : AP.Cfg)
    (recs : List (Str × Str × Str)) (chunks : List Str)
    (hwf : ∀ r ∈ recs, WfRec r) (hc : chunks.flatten = (recs.map frame).flatten)
    (ins : List AP.In) (sched : List Act) (pre post : List Item) (em : Tr.Emitted)
    (hout : (Dm.run cfg c { sshdTodo := sshdTodoOfPipe chunks, auditTodo := ins, ap := { tr := { failAt := f } } } sched).out =
      pre ++ .action em :: post) :
    ∃ r ∈ recs, ∃ e n cr,
      sentOf (Sshd.process cfg r.1 r.2.2 true .ready).effs = some (e, n, cr) ∧
      e.outcome = "succeeded" ∧ atoi r.1 = some n ∧
      Item.sshd e ∈ pre ∧ em.login = loginOf e n cr := by
  obtain ⟨e, pid, msg, n, cr, hin, hsent, hsucc, hatoi, hpre, hlogin, _⟩ :=
    AM.C10D.end_to_end cfg f c (sshdTodoOfPipe chunks) ins sched pre post em hout
  rw [sshdTodo_of_frames recs chunks hwf hc] at hin
  obtain ⟨r, hr, heq⟩ := List.mem_map.mp hin
  simp only [Prod.mk.injEq, and_true] at heq
  obtain ⟨h1, h2⟩ := heq
  subst h1 h2
  exact ⟨r, hr, e, n, cr, hsent, hsucc, hatoi, hpre, hlogin⟩

end AM.C10B
