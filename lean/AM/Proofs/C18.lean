import AM.Proofs.C03
/-! # C18 — readiness is reported only when every registered component is ready

For EVERY sequence of registrations and ready-marks (any names, re-registration and ready-marks of
unregistered names included) the endpoint answers 200 exactly when every component has been marked
ready since its last registration, and 503 otherwise (`status`); the body is `overall` plus exactly
the components of the folded log, and `overall` is `ok` iff every listed component is. Under
concurrency every answer is the answer for ONE state of the map (`snapshot`). -/
namespace AM.C18
open AM.Health

/-- the last operation on `c` in the log decides its state -/
def lastOp (log : List Op) (c : Str) : Option Bool :=
  log.foldl (fun acc op => match op with
    | .add c' => if c' = c then some false else acc
    | .ready c' => if c' = c then some true else acc) none

theorem aLookup_apply (m : M) (op : Op) (c : Str) :
    aLookup c (apply m op) = match op with
      | .add c' => if c' = c then some false else aLookup c m
      | .ready c' => if c' = c then some true else aLookup c m := by
  cases op <;> simp only [apply] <;> split <;> simp_all [aLookup_aStore_self, aLookup_aStore_ne]

theorem fold_lookup (log : List Op) (c : Str) : aLookup c (fold log) = lastOp log c :=
  (List.foldl_hom (aLookup c) fun m op => (aLookup_apply m op c).symm).symm

theorem fold_unique (log : List Op) : aUnique (fold log) :=
  List.foldlRecOn log apply (motive := aUnique) aUnique_nil
    fun m h op _ => by cases op <;> exact aUnique_store h

theorem respond_200 (m : M) : (respond m).1 = 200 ↔ isReady m = true := by
  simp only [respond]; split <;> simp_all

theorem respond_503 (m : M) : (respond m).1 = 503 ↔ isReady m = false := by
  simp only [respond]; split <;> simp_all

theorem isReady_iff {m : M} (hu : aUnique m) : isReady m = true ↔ ∀ c, aLookup c m ≠ some false := by
  simp only [isReady, List.all_eq_true]
  constructor
  · intro h c hc
    simpa using h _ (aLookup_mem hc)
  · intro h ⟨c, b⟩ hx
    cases b with
    | true => rfl
    | false => exact absurd (aLookup_of_mem hu hx) (h c)

/-- 200 exactly when no registered component is waiting for its ready-mark -/
theorem status (log : List Op) :
    ((respond (fold log)).1 = 200 ↔ ∀ c, lastOp log c ≠ some false) ∧
    ((respond (fold log)).1 = 503 ↔ ∃ c, lastOp log c = some false) ∧
    ((respond (fold log)).1 = 200 ∨ (respond (fold log)).1 = 503) := by
  have key : isReady (fold log) = true ↔ ∀ c, lastOp log c ≠ some false := by
    simpa only [fold_lookup] using isReady_iff (fold_unique log)
  refine ⟨(respond_200 _).trans key, ?_, ?_⟩
  · rw [respond_503, ← Bool.not_eq_true, key]; exact Classical.not_forall_not
  · rw [respond_200, respond_503]; cases isReady (fold log) <;> simp

/-- the body's `overall` entry agrees with the status code -/
theorem overall_entry (m : M) :
    aLookup overallKey (respond m).2 = some (if (respond m).1 = 200 then ok else notReady) := by
  show aLookup overallKey (statusMap m) = _
  simp only [respond_200, statusMap, aLookup_aStore_self]

/-- every component of the folded log is listed with its own state (unless it is literally called
"overall", whose entry is the overall status) -/
theorem listed (m : M) (hu : aUnique m) (c : Str) (b : Bool) (hc : c ≠ overallKey) (hm : (c, b) ∈ m) :
    aLookup c (respond m).2 = some (if b then ok else notReady) := by
  simp only [respond, statusMap]
  rw [aLookup_aStore_ne c overallKey _ _ (Ne.symm hc)]
  have hu' : aUnique (m.map fun kv => (kv.1, if kv.2 then ok else notReady)) := by
    simpa [aUnique, List.map_map, Function.comp_def] using hu
  exact aLookup_of_mem hu' (List.mem_map.mpr ⟨(c, b), hm, rfl⟩)

theorem mem_statusMap {m : M} {kv : Str × Str} (h : kv ∈ statusMap m) :
    kv = (overallKey, if isReady m then ok else notReady) ∨
    ∃ b, (kv.1, b) ∈ m ∧ kv.2 = (if b then ok else notReady) := by
  rcases mem_aStore h with h | ⟨h, _⟩
  · exact .inl h
  · obtain ⟨x, hx, rfl⟩ := List.mem_map.mp h
    exact .inr ⟨x.2, hx, rfl⟩

/-- nothing else is listed -/
theorem only_listed (m : M) (c v : Str) (hc : c ≠ overallKey) (h : (c, v) ∈ (respond m).2) :
    ∃ b, (c, b) ∈ m ∧ v = (if b then ok else notReady) := by
  rcases mem_statusMap h with h | h
  · cases h; exact absurd rfl hc
  · exact h

theorem consistent (m : M) :
    (respond m).1 = 200 ↔ ∀ kv ∈ (respond m).2, kv.2 = ok := by
  rw [respond_200]
  constructor
  · intro hr kv hkv
    rcases mem_statusMap hkv with rfl | ⟨b, hb, hv⟩
    · simp [hr]
    · simp [hv, show b = true from List.all_eq_true.mp hr _ hb]
  · intro h
    -- the `overall` entry is among them
    have := h (overallKey, if isReady m then ok else notReady) List.mem_cons_self
    cases hr : isReady m
    · rw [hr] at this; exact absurd this (by decide)
    · rfl

/-- non-vacuity: re-registration makes the component wait for a new ready-mark -/
example : (respond (fold [.add "a".toList, .ready "a".toList, .add "a".toList])).1 = 503 := by decide
example : (respond (fold [.add "a".toList, .add "b".toList, .ready "b".toList, .ready "a".toList])).1 = 200 := by
  decide

/-- snapshot consistency under concurrency: for EVERY interleaving (at lock granularity) of
registrations, ready-marks and status requests, every answer of the endpoint is the answer for one
single state of the map — hence (by `consistent`) its `overall` entry is `ok` iff every listed
component is `ok` -/
theorem snapshot (progs : List (List (AM.Conc.Op AM.Conc.HS Unit)))
    (hp : ∀ p ∈ progs, ∀ op ∈ p, (∃ o, op = AM.Conc.healthStore o) ∨ op = AM.Conc.healthLen ∨
      op = AM.Conc.healthIterate) (sched : List Nat) :
    let fin := AM.Conc.runSched (AM.Conc.start (([], []) : AM.Conc.HS) progs) sched
    fin.g = none → ∀ r ∈ fin.sh.2, (r.1 = 200 ↔ ∀ kv ∈ r.2, kv.2 = ok) := by
  intro fin hg r hr
  obtain ⟨m, rfl⟩ := AM.C03.health_snapshot progs hp sched hg r hr
  exact consistent m

/-- the discipline `snapshot` assumes, read off the current source on every run: each locking method
of `GenericSyncMap` (the map behind the readiness registry) is one critical section — it takes the
map's mutex first and releases it with a deferred unlock -/
theorem gen_syncmap_methods_locked :
    AM.Gen.syncMapLocked.length = 7 ∧ AM.Gen.syncMapLocked.all (·.2) = true := by decide

end AM.C18
