import AM.Proofs.AuditStep
/-! # The audit processor refines the session tracker

For every run, the flush at `Read`'s return included, the correlator inside the processor has executed
exactly the operation list recorded in `trHist`: its state is the fold of `Tr.step` over that list, the
audit events in the list are exactly the events handed over (`handed`, in order), and its logins are
logins that arrived on the `Logins` channel. Hence the tracker's invariant (and with it C01 / C04 at the
level of the processor) holds of everything the processor ever writes: `emitted_justified`. `Lift` says
this of a state, `Tracks` of a stretch of a run. -/
namespace AM.C15
open AM.AP
open AM.Tr (Inv loginsOf auditsOf isOpener inv_step inv_init loginsOf_append auditsOf_append)

/-- the correlator's state is determined by the operations it was asked to perform -/
def foldTr (failAt : Option Nat) (h : List Tr.Op) : Tr.St :=
  h.foldl (fun s op => (Tr.step s op).1) { failAt := failAt }

/-- from `st` to `st'` the correlator inside the processor executed exactly `ops` -/
structure Tracks (st st' : AP.St) (ops : List Tr.Op) : Prop where
  tr : st'.tr = ops.foldl (fun s op => (Tr.step s op).1) st.tr
  hist : st'.trHist = st.trHist ++ ops
  handed : st'.handed = st.handed ++ auditsOf ops

theorem Tracks.trans {s1 s2 s3 : AP.St} {o1 o2 : List Tr.Op} (h1 : Tracks s1 s2 o1) (h2 : Tracks s2 s3 o2) :
    Tracks s1 s3 (o1 ++ o2) :=
  ⟨by rw [h2.tr, h1.tr, List.foldl_append], by rw [h2.hist, h1.hist, List.append_assoc],
    by rw [h2.handed, h1.handed, auditsOf_append, List.append_assoc]⟩

theorem tracks_stepIn (c : Cfg) (st : AP.St) (i : In) :
    ∃ ops, Tracks st (stepIn c st i).1 ops ∧ loginsOf ops = loginsIn [i] := by
  obtain ⟨ops, errs, sl, hs, hl, -⟩ := stepIn_nf c st i
  exact ⟨ops, hs ▸ ⟨rfl, rfl, rfl⟩, hl⟩

theorem tracks_close (c : Cfg) (st : AP.St) : ∃ ops, Tracks st (close c st) ops ∧ loginsOf ops = [] := by
  obtain ⟨ops, errs, hs, hl, -⟩ := close_nf c st
  exact ⟨ops, hs ▸ ⟨rfl, rfl, rfl⟩, hl⟩

structure Lift (failAt : Option Nat) (ls : List Tr.Login) (st : AP.St) : Prop where
  tr : st.tr = foldTr failAt st.trHist
  audits : auditsOf st.trHist = st.handed
  logins : ∀ l ∈ loginsOf st.trHist, l ∈ ls

theorem Lift.inv {f : Option Nat} {ls : List Tr.Login} {st : AP.St} (h : Lift f ls st) : Inv st.trHist st.tr := by
  have := foldl_induction inv_step [] { failAt := f } st.trHist (inv_init f)
  rwa [List.nil_append, ← foldTr, ← h.tr] at this

theorem Lift.tracks {f : Option Nat} {ls ls' : List Tr.Login} {st st' : AP.St} {ops : List Tr.Op}
    (h : Lift f ls st) (ht : Tracks st st' ops) (hs : ∀ l ∈ ls ++ loginsOf ops, l ∈ ls') : Lift f ls' st' := by
  refine ⟨?_, ?_, fun l hl => ?_⟩
  · rw [ht.tr, ht.hist, h.tr, foldTr, foldTr, List.foldl_append]
  · rw [ht.hist, ht.handed, auditsOf_append, h.audits]
  · rw [ht.hist, loginsOf_append] at hl
    rcases List.mem_append.mp hl with hl | hl
    · exact hs l (List.mem_append_left _ (h.logins l hl))
    · exact hs l (List.mem_append_right _ hl)

theorem tracks_run (c : Cfg) (st : AP.St) (ins : List In) : ∃ ops,
    Tracks st (AP.run c st ins).1 ops ∧ loginsOf ops = loginsIn (ins.take (AP.run c st ins).2.2) := by
  obtain ⟨ops, ht, hl⟩ : ∃ ops, Tracks st (runCore c st ins).1 ops ∧
      loginsOf ops = loginsIn (ins.take (runCore c st ins).2.2) :=
    runCore_inv (P := fun s pre => ∃ ops, Tracks st s ops ∧ loginsOf ops = loginsIn pre)
      (fun s pre i ⟨ops, ht, hl⟩ => by
        obtain ⟨o, ht', hl'⟩ := tracks_stepIn c s i
        exact ⟨ops ++ o, ht.trans ht', by rw [loginsOf_append, hl, hl', loginsIn_append]⟩)
      ⟨[], ⟨rfl, (List.append_nil _).symm, (List.append_nil _).symm⟩, rfl⟩ rfl
  unfold AP.run
  split <;> rename_i heq <;> rw [heq] at ht hl
  · obtain ⟨o, ht', hl'⟩ := tracks_close c _
    exact ⟨ops ++ o, ht.trans ht', by rw [loginsOf_append, hl, hl', List.append_nil]⟩
  · exact ⟨ops, ht, hl⟩

/-- **Refinement.** For every run — to the very end, flush included — the correlator inside the
processor is the tracker model run on `trHist`, and `trHist` carries exactly the events handed over
and only logins that arrived on the channel. -/
theorem processor_refines_tracker (failAt : Option Nat) (c : Cfg) (ins : List In) :
    Lift failAt (loginsIn ins) (AP.run c { tr := { failAt := failAt } } ins).1 := by
  obtain ⟨ops, ht, hl⟩ := tracks_run c { tr := { failAt := failAt } } ins
  refine Lift.tracks (ls := []) ⟨rfl, rfl, by simp [loginsOf]⟩ ht fun l hl' => ?_
  rw [List.nil_append, hl] at hl'
  rw [← List.take_append_drop (AP.run c { tr := { failAt := failAt } } ins).2.2 ins, loginsIn_append]
  exact List.mem_append_left _ hl'

/-- **Everything the processor writes is justified.** An emitted UserAction carries an event that
was handed to the correlator (i.e. coalesced from a delivered group), under a valid login that
arrived on the `Logins` channel and whose PID is the PID of a LOGIN-type event of that session
that was handed over too — for every input list, write oracle and configuration. -/
theorem emitted_justified (failAt : Option Nat) (c : Cfg) (ins : List In) (em : Tr.Emitted)
    (hem : em ∈ (AP.run c { tr := { failAt := failAt } } ins).1.tr.out) :
    em.ev ∈ (AP.run c { tr := { failAt := failAt } } ins).1.handed ∧
    em.login ∈ loginsIn ins ∧ em.login.valid = true ∧
    ∃ r ∈ (AP.run c { tr := { failAt := failAt } } ins).1.handed, isOpener r em.ev.ses em.login.pid := by
  have hl := processor_refines_tracker failAt c ins
  obtain ⟨h1, h2, h3, r, hr, ho⟩ := hl.inv.outOk em hem
  rw [hl.audits] at h1 hr
  exact ⟨h1, hl.logins _ h2, h3, r, hr, ho⟩

end AM.C15
