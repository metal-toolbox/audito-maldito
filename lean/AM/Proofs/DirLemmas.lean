import AM.Model.DirReader
import AM.Proofs.C12
/-! Helper lemmas for C20 (directory reader): facts about `split`, the order `strLe` /
`before`, and decimal parsing. -/
namespace AM.DirLemmas
open AM.Pipe AM.Dir AM.C12

theorem split_pending_nonl (p bs : Str) (hp : NL ∉ p) : NL ∉ (split p bs).2 :=
  (records_framed NL p bs hp).2

theorem split_lines_nonl (p bs : Str) (hp : NL ∉ p) : ∀ l ∈ (split p bs).1, NL ∉ l := by
  intro l hl
  simp only [split, List.mem_map] at hl
  obtain ⟨r, hr, rfl⟩ := hl
  obtain ⟨body, rfl, hb⟩ := (records_framed NL p bs hp).1 r hr
  simpa using hb

theorem drop_lines (data : Str) :
    data.drop (data.length - (split [] data).2.length) = (split [] data).2 := by
  -- `data` is its complete lines followed by the pending one
  have h := records_flatten NL [] data
  simp only [split]
  generalize (records NL [] data).1.flatten = a, (records NL [] data).2 = b at h
  subst h
  simp

theorem strLe_iff_le (a b : Str) : strLe a b = true ↔ a ≤ b := by
  induction a generalizing b with
  | nil => simp [strLe]
  | cons x r ih =>
    cases b with
    | nil => simp [strLe]
    | cons y s =>
      simp [strLe, List.cons_le_cons_iff, ih, Char.lt_def, UInt32.lt_iff_toNat_lt]

theorem before_iff (a b : Str) : before a b = true ↔
    rotationNumber a > rotationNumber b ∨ (rotationNumber a = rotationNumber b ∧ b ≤ a) := by
  simp [before, strLe_iff_le]

theorem before_total (a b : Str) : (before a b || before b a) = true := by
  rw [Bool.or_eq_true, before_iff, before_iff]
  rcases Nat.lt_trichotomy (rotationNumber a) (rotationNumber b) with h | h | h
  · exact Or.inr (Or.inl h)
  · rcases List.le_total a b with ht | ht
    · exact Or.inr (Or.inr ⟨h.symm, ht⟩)
    · exact Or.inl (Or.inr ⟨h, ht⟩)
  · exact Or.inl (Or.inl h)

theorem before_trans (a b c : Str) (h1 : before a b = true) (h2 : before b c = true) :
    before a c = true := by
  rw [before_iff] at h1 h2 ⊢
  rcases h1 with h1 | ⟨e1, s1⟩
  · rcases h2 with h2 | ⟨e2, _⟩
    · exact Or.inl (by omega)
    · exact Or.inl (by omega)
  · rcases h2 with h2 | ⟨e2, s2⟩
    · exact Or.inl (by omega)
    · exact Or.inr ⟨by omega, List.le_trans s2 s1⟩

theorem before_antisymm (a b : Str) (h1 : before a b = true) (h2 : before b a = true) : a = b := by
  rw [before_iff] at h1 h2
  rcases h1 with h1 | ⟨e1, s1⟩
  · rcases h2 with h2 | ⟨e2, _⟩ <;> omega
  · rcases h2 with h2 | ⟨_, s2⟩
    · omega
    · exact List.le_antisymm s2 s1

theorem foldl_digits_eq (s : Str) (init : Nat) :
    s.foldl (fun acc c => acc * 10 + (c.toNat - 48)) init = Nat.ofDigitChars 10 s init := by
  induction s generalizing init with
  | nil => simp [Nat.ofDigitChars]
  | cons c r ih =>
    rw [List.foldl_cons, ih, Nat.ofDigitChars_cons]
    congr 1
    simp [Nat.mul_comm]

theorem parseUint_toDigits (n : Nat) (hn : n ≤ maxU64) : parseUint (Nat.toDigits 10 n) = some n := by
  have hne : (Nat.toDigits 10 n).isEmpty = false := by simp [Nat.toDigits_ne_nil]
  have hall : (Nat.toDigits 10 n).all Char.isDigit = true :=
    List.all_eq_true.mpr fun c hc => Nat.isDigit_of_mem_toDigits (by decide) (by decide) hc
  simp only [parseUint, hne, hall, Bool.not_true, Bool.or_self, Bool.false_eq_true, if_false]
  rw [foldl_digits_eq, Nat.ofDigitChars_ten_toDigits]
  simp [hn]

theorem rotationNumber_numbered (n : Nat) (hn : n ≤ maxU64) :
    rotationNumber (logPrefix ++ '.' :: (Nat.toDigits 10 n)) = n := by
  have hpre : logPrefix.isPrefixOf (logPrefix ++ '.' :: Nat.toDigits 10 n) = true := by
    rw [List.isPrefixOf_iff_prefix]; exact List.prefix_append _ _
  have hdrop : (logPrefix ++ '.' :: Nat.toDigits 10 n).drop logPrefix.length = '.' :: Nat.toDigits 10 n :=
    List.drop_left
  simp only [rotationNumber, hpre, if_true, hdrop, List.isEmpty_cons, Bool.false_eq_true, if_false,
    parseUint_toDigits n hn, Option.getD_some]

end AM.DirLemmas
