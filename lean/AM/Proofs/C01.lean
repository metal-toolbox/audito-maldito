import AM.Proofs.TrackerInv
/-! C01: an emitted event carries the identity of exactly the SSH login whose PID equals the PID
in the LOGIN record that opened the event's session — for every history in which each sshd PID
logs in once and a session has one opener PID, and every write oracle. -/
namespace AM.C01
open AM.Tr

/-- the strong form: for *every* LOGIN record of the event's session (not just some) -/
theorem identity_all (failAt : Option Nat) (h : List Op) (em : Emitted)
    (hu : ∀ l₁ ∈ loginsOf h, ∀ l₂ ∈ loginsOf h, l₁.pid = l₂.pid → l₁ = l₂)
    (ho : ∀ r₁ ∈ auditsOf h, ∀ r₂ ∈ auditsOf h, r₁.typ = .login → r₂.typ = .login →
      r₁.ses = r₂.ses → atoi r₁.pidTok = atoi r₂.pidTok) :
    em ∈ (run { failAt := failAt } h).1.out →
      (∃ r ∈ auditsOf h, r.typ = .login ∧ r.ses = em.ev.ses) ∧
      ∀ r ∈ auditsOf h, r.typ = .login → r.ses = em.ev.ses →
        ∀ l ∈ loginsOf h, atoi r.pidTok = some l.pid → l = em.login := by
  intro hem
  obtain ⟨_, h2, _, r0, hr0, ht0, hs0, hp0, _, _⟩ := (inv_run_init failAt h).outOk em hem
  refine ⟨⟨r0, hr0, ht0, hs0⟩, ?_⟩
  intro r hr ht hs l hl hp
  have := ho r hr r0 hr0 ht ht0 (hs.trans hs0.symm)
  rw [hp, hp0] at this
  exact hu l hl em.login h2 (Option.some.inj this)

theorem identity (failAt : Option Nat) (h : List Op) (em : Emitted)
    (hu : ∀ l₁ ∈ loginsOf h, ∀ l₂ ∈ loginsOf h, l₁.pid = l₂.pid → l₁ = l₂)
    (ho : ∀ r₁ ∈ auditsOf h, ∀ r₂ ∈ auditsOf h, r₁.typ = .login → r₂.typ = .login →
      r₁.ses = r₂.ses → atoi r₁.pidTok = atoi r₂.pidTok) :
    em ∈ (run { failAt := failAt } h).1.out →
      ∃ r ∈ auditsOf h, r.typ = .login ∧ r.ses = em.ev.ses ∧
        ∀ l ∈ loginsOf h, atoi r.pidTok = some l.pid → l = em.login := by
  intro hem
  obtain ⟨⟨r, hr, ht, hs⟩, hall⟩ := identity_all failAt h em hu ho hem
  exact ⟨r, hr, ht, hs, hall r hr ht hs⟩

/-- … and that login exists: it is the event's own, delivered by the history -/
theorem identity_exists (failAt : Option Nat) (h : List Op) (em : Emitted) :
    em ∈ (run { failAt := failAt } h).1.out →
      ∃ r ∈ auditsOf h, r.typ = .login ∧ r.ses = em.ev.ses ∧
        em.login ∈ loginsOf h ∧ atoi r.pidTok = some em.login.pid := by
  intro hem
  obtain ⟨_, h2, _, r0, hr0, ht0, hs0, hp0, _, _⟩ := (inv_run_init failAt h).outOk em hem
  exact ⟨r0, hr0, ht0, hs0, h2, hp0⟩

/-! ### the hypotheses are satisfiable by a non-trivial history -/

def mkLogin (pid : Int) (who : String) : Login :=
  { pid := pid, cred := strOf who, hasSource := true, subjects := [("userID", strOf who)],
    srcType := strOf "IP", srcValue := strOf "10.0.0.1", srcExtra := [], target := [], loggedAt := 0 }

def mkEv (ts : Int) (ses : String) (typ : EvType) (pid : String) : AEvent :=
  { ts := ts, ses := strOf ses, typ := typ, pidTok := strOf pid, result := strOf "success",
    action := [], how := [], object := [], args := [] }

/-- two sessions, two logins, interleaved: session 1's LOGIN record comes before its SSH login
(the records are cached and flushed), session 2's after -/
def demo : List Op :=
  [ .audit (mkEv 1 "1" .login "100") 1,
    .remoteLogin (mkLogin 200 "bob"),
    .audit (mkEv 2 "1" .other "100") 2,
    .audit (mkEv 3 "2" .login "200") 3,
    .remoteLogin (mkLogin 100 "alice"),
    .audit (mkEv 4 "2" .other "200") 4,
    .audit (mkEv 5 "1" .credDisp "100") 5,
    .audit (mkEv 6 "2" .credDisp "200") 6 ]

/-- the demo satisfies both hypotheses of `identity` and emits three events per session, each under the right login
(columns: tag `ts`, login PID) -/
example :
    (∀ l₁ ∈ loginsOf demo, ∀ l₂ ∈ loginsOf demo, l₁.pid = l₂.pid → l₁ = l₂) ∧
    (∀ r₁ ∈ auditsOf demo, ∀ r₂ ∈ auditsOf demo, r₁.typ = .login → r₂.typ = .login →
      r₁.ses = r₂.ses → atoi r₁.pidTok = atoi r₂.pidTok) ∧
    (run {} demo).2 = none ∧
    3 ≤ (run {} demo).1.out.length ∧
    (run {} demo).1.out.map (fun em => (em.ev.ts, em.login.pid)) =
      [(3, 200), (1, 100), (2, 100), (4, 200), (5, 100), (6, 200)] := by
  refine ⟨by decide +kernel, by decide +kernel, by decide +kernel, by decide +kernel, by decide +kernel⟩

/-- with the third write failing the run stops there; what was emitted is still attributed -/
example :
    (run { failAt := some 2 } demo).2 = some .write ∧
    (run { failAt := some 2 } demo).1.out.map (fun em => (em.ev.ts, em.login.pid)) =
      [(3, 200), (1, 100)] := by
  refine ⟨by decide +kernel, by decide +kernel⟩

end AM.C01
