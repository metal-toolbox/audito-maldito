import AM.Proofs.ConcLemmas
import AM.Gen.Facts
/-! # C03 — operations bracketed by one mutex are atomic, for every schedule

For EVERY schedule (an arbitrary list of thread indices, including indices of blocked, finished
or non-existent threads), all programs and all state types: whenever the mutex is free the shared
state is the sequential composition of the operations in order of acquisition (`serialisable`);
only the holder executes body instructions; there is no deadlock; when all threads are done the
acquisition order is an interleaving of the programs. Instances: the session tracker, the readiness map. -/
namespace AM.C03
open AM.Conc

variable {S L : Type}

theorem serialisable (s0 : S) (progs : List (List (Op S L))) (sched : List Nat) :
    let fin := runSched (start s0 progs) sched
    fin.g = none → fin.sh = fin.log.foldl applyOp s0 := by
  intro fin hg
  exact (inv_free (inv_reach s0 progs sched) hg).2

/-- a body instruction (in particular every access to the shared state) is only ever executed by
the holder of the mutex -/
theorem exclusive (s0 : S) (progs : List (List (Op S L))) (sched : List Nat) (i : Nat)
    (t : Thr S L) (ins : Instr S L) (r : List (Instr S L)) (loc : L) :
    let sys := runSched (start s0 progs) sched
    sys.thr[i]? = some t → t.cur = some (ins :: r, loc) → sys.g = some i := by
  intro sys ht hc
  exact (inv_mid (inv_reach s0 progs sched) ht hc).1

theorem at_most_one_in_progress (s0 : S) (progs : List (List (Op S L))) (sched : List Nat)
    (i j : Nat) (ti tj : Thr S L) :
    let sys := runSched (start s0 progs) sched
    sys.thr[i]? = some ti → sys.thr[j]? = some tj → ti.cur ≠ none → tj.cur ≠ none → i = j := by
  intro sys hi hj hci hcj
  obtain ⟨_, hci⟩ := Option.ne_none_iff_exists'.mp hci
  obtain ⟨_, hcj⟩ := Option.ne_none_iff_exists'.mp hcj
  have h1 := (inv_mid (inv_reach s0 progs sched) hi hci).1
  rw [(inv_mid (inv_reach s0 progs sched) hj hcj).1] at h1
  exact (Option.some.inj h1).symm

/-- no deadlock: as long as some thread is unfinished, some thread can take a step -/
theorem progress (s0 : S) (progs : List (List (Op S L))) (sched : List Nat) :
    let sys := runSched (start s0 progs) sched
    (∃ (i : Nat) (t : Thr S L), sys.thr[i]? = some t ∧ (t.cur ≠ none ∨ t.todo ≠ [])) → ∃ i, step sys i ≠ sys := by
  intro sys ⟨i, t, ht, hu⟩
  have hinv : Inv s0 sys := inv_reach s0 progs sched
  -- mutex free: an unfinished thread takes it; held: the holder releases it or its remaining body gets shorter
  cases hg : sys.g with
  | none =>
    have hc : t.cur = none := (inv_free hinv hg).1 t (List.mem_of_getElem? ht)
    obtain ⟨op, rest, htd⟩ := List.exists_cons_of_ne_nil (hu.resolve_left (· hc))
    refine ⟨i, fun heq => ?_⟩
    have hs : (step sys i).g = some i := by rw [step_acquire ht hc htd hg]
    rw [heq, hg] at hs
    cases hs
  | some h =>
    obtain ⟨th, r, loc, hth, hch⟩ := inv_holder hinv hg
    refine ⟨h, fun heq => ?_⟩
    cases r with
    | nil =>
      have hs : (step sys h).g = none := by rw [step_release hth hch]
      rw [heq, hg] at hs
      cases hs
    | cons ins r' =>
      have hs : (step sys h).thr[h]? = some ⟨th.todo, some (r', (execInstr sys.sh loc ins).2)⟩ := by
        rw [step_instr hth hch]
        simp [lt_length_of_getElem? hth]
      rw [heq, hth] at hs
      have hlen := congrArg (fun t : Thr S L => t.cur.map (·.1.length)) (Option.some.inj hs)
      simp [hch] at hlen

/-- tagged, since `trackerOp` is not injective: `order` is a list of tags, not of operations -/
theorem log_interleaving {α : Type} (f : α → Op S L) (s0 : S) (progs : List (List α)) (sched : List Nat) :
    let fin := runSched (start s0 (progs.map (·.map f))) sched
    allDone fin → ∃ order : List α, fin.log = order.map f ∧ order.Perm progs.flatten ∧
      ∀ (k : Nat) (p : List α), progs[k]? = some p → List.Sublist p order := by
  intro fin hd
  exact invP_done (invP_reach f progs rfl s0 sched) (allDone_todos hd)

theorem log_interleaving_id (s0 : S) (progs : List (List (Op S L))) (sched : List Nat) :
    let fin := runSched (start s0 progs) sched
    allDone fin → fin.log.Perm progs.flatten ∧ ∀ (k : Nat) (p : List (Op S L)), progs[k]? = some p → p.Sublist fin.log := by
  simpa using log_interleaving id s0 progs sched

/-- every operation ran exactly once -/
theorem log_complete (s0 : S) (progs : List (List (Op S L))) (sched : List Nat) :
    let fin := runSched (start s0 progs) sched
    allDone fin → fin.log.Perm progs.flatten :=
  fun hd => (log_interleaving_id s0 progs sched hd).1

/-- each thread's operations appear in its program order -/
theorem log_respects_program_order (s0 : S) (progs : List (List (Op S L))) (sched : List Nat)
    (k : Nat) (p : List (Op S L)) :
    let fin := runSched (start s0 progs) sched
    allDone fin → progs[k]? = some p → p.Sublist fin.log :=
  fun hd => (log_interleaving_id s0 progs sched hd).2 k p

theorem applyOp_trackerOp (st : Tr.St) (op : Tr.Op) : applyOp st (trackerOp op) = (Tr.step st op).1 := rfl

/-- for every schedule of concurrent RemoteLogin / AuditdEvent / cleanup calls, the tracker's final
state (in particular its emitted events `out`) is that of SOME sequential ordering of the same
calls that respects each caller's own order -/
theorem tracker_serialisable (failAt : Option Nat) (progs : List (List Tr.Op)) (sched : List Nat) :
    let fin := runSched (start ({ failAt := failAt } : Tr.St) (progs.map (·.map trackerOp))) sched
    allDone fin → ∃ order : List Tr.Op, order.Perm progs.flatten ∧
      (∀ (k : Nat) (p : List Tr.Op), progs[k]? = some p → p.Sublist order) ∧
      fin.sh = order.foldl (fun st op => (Tr.step st op).1) { failAt := failAt } := by
  intro fin hd
  obtain ⟨order, hl, hperm, hsub⟩ := log_interleaving trackerOp _ progs sched hd
  refine ⟨order, hperm, hsub, ?_⟩
  have hinv := inv_reach ({ failAt := failAt } : Tr.St) (progs.map (·.map trackerOp)) sched
  have hs := (inv_free hinv (allDone_free hinv hd)).2
  show fin.sh = _
  rw [hs, hl, List.foldl_map]
  rfl

theorem health_snapshot (progs : List (List (Op HS Unit)))
    (hp : ∀ p ∈ progs, ∀ op ∈ p, (∃ o, op = healthStore o) ∨ op = healthLen ∨ op = healthIterate)
    (sched : List Nat) :
    let fin := runSched (start (([], []) : HS) progs) sched
    fin.g = none → ∀ r ∈ fin.sh.2, ∃ m : Health.M, r = Health.respond m := by
  intro fin hg
  have hs : fin.sh = fin.log.foldl applyOp (([], []) : HS) := serialisable _ progs sched hg
  have hmem : ∀ op ∈ fin.log, (∃ o, op = healthStore o) ∨ op = healthLen ∨ op = healthIterate := by
    intro op hop
    obtain ⟨a, ha, rfl⟩ := invP_mem (invP_reach id progs (by simp) (([], []) : HS) sched) op hop
    obtain ⟨p, hpp, hap⟩ := List.mem_flatten.1 ha
    exact hp p hpp a hap
  rw [hs]
  refine List.foldlRecOn (motive := fun s : HS => ∀ r ∈ s.2, ∃ m : Health.M, r = Health.respond m)
    fin.log applyOp (by simp) ?_
  intro s hsP op hop r hr
  rcases hmem op hop with ⟨o, rfl⟩ | rfl | rfl
  · exact hsP r hr
  · exact hsP r hr
  · rcases List.mem_append.1 (show r ∈ s.2 ++ [Health.respond s.1] from hr) with h | h
    · exact hsP r h
    · exact ⟨s.1, by simpa using h⟩

/-! ### the discipline the theorems assume, read off the current source

`tools/extract` regenerates `AM.Gen.trackerLocked` on every run: for each exported method of the
session tracker, whether its body begins by taking the tracker mutex and releases it with a
deferred unlock (only deferred calls may come before): the bracketing `serialisable` assumes. -/
theorem gen_tracker_operations_locked :
    AM.Gen.trackerLocked.length = 4 ∧ AM.Gen.trackerLocked.all (·.2) = true := by decide

end AM.C03
