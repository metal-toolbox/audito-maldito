import AM.Proofs.C13
/-! # C08 — fail-stop: a worker failure or a termination signal ends the whole daemon

The group of `cmd/namedpipe.go` (`errgroup.WithContext`, three `eg.Go` workers, `eg.Wait`) over
the worker automata of C13, with the facts regenerated from the current source.

* `no_silent_exit`: no worker function has a `return nil`: a worker that stops, stops with an error,
  and the first such error cancels the group's context.
* `cause_cancels`: every failure cause of the property (a pipe at end-of-stream or failing — the
  ingester returns an error; an unparsable audit line, a write failure, an invalid login — `Read` is
  returning an error; an input path that is not a named pipe — the worker returns before reading;
  SIGTERM / SIGINT) puts the group in a cancelled state.
* `group_stops`: in every cancelled state — whatever each worker is doing, for EVERY capacity and
  occupancy of the line buffer (idle … saturated) — each worker's own steps lead it to `returned`
  (3, 3 and 8 steps), with no help from its peers or from the pipe writers; hence `eg.Wait` returns.
* `exit_nonzero`: `Wait`'s error is returned by `RunNamedPipe` and `main` ends in `log.Fatal*`.

Process exit, signals and wall-clock time are runtime matters outside any model; the daemon runs
of the harness exercise them (exit status and time to exit, idle and under sustained load). -/
namespace AM.C08
open AM.Wk AM.Gen AM.C13

theorem no_silent_exit (f : Facts) (h : f.good = true) : f.nilReturns = 0 := by
  simp only [Facts.good, Bool.and_eq_true, decide_eq_true_eq] at h
  simp [h]

theorem no_silent_exit_now : fromGen.nilReturns = 0 := no_silent_exit fromGen gen_good

/-- every failure cause leaves the group cancelled -/
theorem cause_cancels (g : Group) :
    (g.parent = true → g.cancelled = true) ∧                                   -- SIGTERM / SIGINT
    (g.sshdIng.ph = .returned true → g.cancelled = true) ∧                      -- sshd pipe: EOF, error, not a FIFO
    (g.auditIng.ph = .returned true → g.cancelled = true) ∧                     -- audit pipe: EOF, error, not a FIFO
    (g.proc.main = .failing → g.cancelled = true) ∧                             -- bad line, write failure, bad login
    (g.proc.main = .returned → g.cancelled = true) := by
  refine ⟨?_, ?_, ?_, ?_, ?_⟩ <;> intro h <;> simp [Group.cancelled, h]

/-- **Fail-stop.** In every cancelled state of the group every worker returns on its own. -/
theorem group_stops (f : Facts) (hf : f.good = true) (g : Group) (cap : Nat)
    (hr : RS.reach g.proc = true) (_hc : g.cancelled = true) :
    isettles f.core .sshd true 0 3 g.sshdIng = true ∧
    isettles f.core .audit true cap 3 g.auditIng = true ∧
    rsettles f.core true 8 g.proc = true := by
  rw [good_core f hf]
  exact ⟨ingester_stops_core .sshd 0 g.sshdIng, ingester_stops_core .audit cap g.auditIng,
    processor_settles g.proc true hr (Or.inl rfl)⟩

/-- … including when the processor itself is the failing worker and nobody cancelled from outside -/
theorem failing_processor_returns (f : Facts) (hf : f.good = true) (p m : GPhase) :
    rsettles f.core false 8 ⟨.failing, p, m, false, false⟩ = true :=
  (processor_stops f hf p m).2

theorem exit_nonzero (f : Facts) (h : f.good = true) : exitNonZero f true = true := by
  simp only [Facts.good, Bool.and_eq_true] at h
  simp [exitNonZero, h]

/-- for the current source: with the line buffer at its real capacity, saturated -/
theorem fail_stop_now (g : Group) (hr : RS.reach g.proc = true) (hc : g.cancelled = true) :
    isettles fromGen.core .sshd true 0 3 g.sshdIng = true ∧
    isettles fromGen.core .audit true auditLogChanCap 3 g.auditIng = true ∧
    rsettles fromGen.core true 8 g.proc = true ∧
    exitNonZero fromGen true = true :=
  let h := group_stops fromGen gen_good g auditLogChanCap hr hc
  ⟨h.1, h.2.1, h.2.2, exit_nonzero fromGen gen_good⟩

/-- a saturated group: the audit ingester blocked handing a line to the full buffer, the sshd
ingester blocked handing a login over, the parser busy — and the sshd pipe just hit end-of-stream -/
example :
    let g : Group := ⟨⟨.returned true, 0⟩, ⟨.handing, auditLogChanCap⟩, ⟨.selecting, .busy, .idle, false, false⟩, false⟩
    g.cancelled = true ∧ RS.reach g.proc = true := by decide

end AM.C08
