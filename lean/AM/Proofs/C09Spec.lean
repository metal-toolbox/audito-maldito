import AM.Proofs.C14Spec
import AM.Proofs.C02Spec
import AM.Proofs.C16Late
/-! The three clauses of C09's judge that hold of the model for EVERY history, reused PIDs or not (whole identity,
order / at most once, not late): theorems of `C14Spec`, `C02Spec`, `C16Late`, put together under C09's name. -/
namespace AM.C09S
open AM.Tr AM.Spec.Tracker

theorem whole_identity_spec_holds (failAt : Option Nat) (h : List Op) :
    specWholeIdentity h (modelObs failAt h).1 = none := AM.C14S.whole_identity_spec_holds failAt h

/-- the first part of `specC09` on the model's own observation, with a working writer -/
theorem free_clauses_hold (h : List Op) :
    ((specWholeIdentity h (modelObs none h).1).orElse fun _ =>
      (specOrderOnce h none (modelObs none h).1).orElse fun _ => specNotLate h (modelObs none h).1) = none := by
  rw [whole_identity_spec_holds, AM.C02S.order_spec_holds, AM.C16L.not_late_spec_holds]; rfl

end AM.C09S
