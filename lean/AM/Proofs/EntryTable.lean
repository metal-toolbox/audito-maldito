import AM.Model.Sshd
/-! `ProcessEntry` finds a row, then looks its function up by NAME (`entryOf`, a match on twenty string
literals). The look-up is done here once for every row of the two tables. -/
namespace AM.Sshd
open AM.Gen

/-- the functions the names in `dispatch` resolve to, row by row (`none`: the `User ` row) -/
def dispatchFns : List (Option EntryFn) :=
  [some acceptPublicKey, some acceptedPassword, some certificateInvalid, some invalidUser, none,
   some (srcPort rootLoginRefusedRE fun _ => strOf "root"), some badOwner,
   some (dnsForm nastyPTRRecordRE), some (dnsForm reverseMappingCheckFailedRE),
   some (dnsForm doesNotMapBackToAddrRE),
   some (srcPort maxAuthAttemptsExceededRE fun caps => grp maxAuthAttemptsExceededRE caps "Username"),
   some (revokedForm revokedPublicKeyByFileRE), some (revokedForm revokedPublicKeyByFileErrRE),
   some (srcPort failedPasswordAuthRE fun caps => grp failedPasswordAuthRE caps "Username")]

def userDispatchFns : List (Option EntryFn) :=
  [some (userFrom notInAllowUsersRE), some (userShell userNonExistentShellRE),
   some (userShell userNonExecutableShellRE), some (userFrom userInDenyUsersRE),
   some (userFrom userNotInAnyGroupRE), some (userFrom userGroupInDenyGroupsRE),
   some (userFrom userGroupNotListedInAllowGroupsRE)]

/- one declaration for all rows: the names are decoded and compared once, not once per row and user -/
theorem dispatchFns_eq : dispatch.map (fun c => entryOf c.fn) = dispatchFns := by rfl

theorem userDispatchFns_eq : userDispatch.map (fun c => entryOf c.fn) = userDispatchFns := by rfl

theorem entryOf_of_row {t : List DCase} {fns : List (Option EntryFn)}
    (ht : t.map (fun c => entryOf c.fn) = fns) {i : Nat} {c : DCase} {f : Option EntryFn}
    (hc : t[i]? = some c) (hf : fns[i]? = some f) : entryOf c.fn = f := by
  rw [← ht, List.getElem?_map, hc] at hf
  exact Option.some.inj hf

theorem entryOf_dispatch (i : Nat) : dispatch[i]?.map (fun c => entryOf c.fn) = dispatchFns[i]? := by
  rw [← dispatchFns_eq, List.getElem?_map]

theorem entryOf_userDispatch (i : Nat) :
    userDispatch[i]?.map (fun c => entryOf c.fn) = userDispatchFns[i]? := by
  rw [← userDispatchFns_eq, List.getElem?_map]

end AM.Sshd
