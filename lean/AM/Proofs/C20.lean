import AM.Proofs.DirLemmas
/-! # C20 — directory reader: every complete line once, in order; start-up order of the files

`lines`: for any set of initial files and any sequence of appends (of arbitrary, possibly partial,
chunks), rotations and truncations of the live file, the model of `dirreader` delivers the complete
lines of the initial files in start-up order and then every line completed in the live file, exactly
once, in order, without its newline. The start-up order is a sort by descending rotation number with
the live log last (`numbered_order`, `live_last`). -/
namespace AM.C20
open AM.Pipe AM.Dir AM.DirLemmas AM.C12

/-- the file is `pre ++ pend`, `pre` being whole lines already delivered (`pre.length = offset`),
`pend` the spec's pending partial line -/
structure Inv (w : World) (pend : Str) : Prop where
  pendOk : NL ∉ pend
  fileEq : w.file.drop w.rf.offset = pend
  offLe  : w.rf.offset ≤ w.file.length
  szOk   : w.rf.lastSz ≤ w.file.length ∨ w.rf.offset = 0

/-- whatever the state was, a read re-establishes `Inv`; `off` is the offset the reset rule chooses -/
theorem onWrite_from (w : World) (off : Nat)
    (hoff : (if w.file.length < w.rf.lastSz || w.file.length < w.rf.offset then 0 else w.rf.offset) = off) :
    (onWrite w).out = w.out ++ (split [] (w.file.drop off)).1 ∧
    Inv (onWrite w) (split [] (w.file.drop off)).2 := by
  have hle : off ≤ w.file.length := by
    subst hoff
    split
    · exact Nat.zero_le _
    · rename_i h
      simp only [Bool.or_eq_true, decide_eq_true_eq, not_or] at h
      omega
  simp only [onWrite, hoff]
  refine ⟨trivial, split_pending_nonl [] _ (by simp), ?_, ?_, Or.inl (Nat.le_refl _)⟩
  · rw [← List.drop_drop, drop_lines]
  · simp only [List.length_drop]; omega

theorem onWrite_append (w : World) (pend bs : Str) (hi : Inv w pend) :
    (onWrite { w with file := w.file ++ bs }).out = w.out ++ (split pend bs).1 ∧
    Inv (onWrite { w with file := w.file ++ bs }) (split pend bs).2 := by
  obtain ⟨hp, hf, hle, hsz⟩ := hi
  have hd : (w.file ++ bs).drop w.rf.offset = pend ++ bs := by rw [List.drop_append_of_le_length hle, hf]
  have h := onWrite_from { w with file := w.file ++ bs } w.rf.offset (by
    -- `szOk`: the file has grown, so the size test of the reset fires only if the offset is 0 already
    simp only [List.length_append]; split <;> simp_all <;> omega)
  simpa only [hd, split, records_acc NL pend bs hp] using h

def specStep (p : Str) : FsOp → List Str × Str
  | .append bs => split p bs
  | .rotate => ([], [])
  | .truncate => ([], [])

theorem spec_cons (p : Str) (op : FsOp) (ops : List FsOp) :
    spec p (op :: ops) = (specStep p op).1 ++ spec (specStep p op).2 ops := by
  cases op <;> simp [spec, specStep]

theorem step_inv (w : World) (pend : Str) (op : FsOp) (hi : Inv w pend) :
    (step w op).out = w.out ++ (specStep pend op).1 ∧ Inv (step w op) (specStep pend op).2 := by
  cases op with
  | append bs => exact onWrite_append w pend bs hi
  | rotate =>
    simp only [step, specStep, List.append_nil]
    exact ⟨trivial, ⟨by simp, rfl, Nat.le_refl _, Or.inr rfl⟩⟩
  | truncate =>
    -- the empty file is read from offset 0, whichever branch of the reset rule is taken
    simpa [step, specStep, split, records] using onWrite_from { w with file := [] } 0 (by
      simp only [List.length_nil]; split <;> simp_all)

theorem fold_inv (ops : List FsOp) {w : World} {pend : Str} (hi : Inv w pend) :
    (ops.foldl step w).out = w.out ++ spec pend ops := by
  induction ops generalizing w pend with
  | nil => simp [spec]
  | cons op ops ih =>
    obtain ⟨h1, h2⟩ := step_inv w pend op hi
    rw [List.foldl_cons, ih h2, h1, spec_cons, List.append_assoc]

theorem startup_inv (files : List (Str × Str)) :
    Inv (startup files) (split [] ((aLookup logPrefix files).getD [])).2 :=
  ⟨split_pending_nonl [] _ (by simp), drop_lines _, Nat.sub_le _ _, Or.inl (Nat.zero_le _)⟩

/-- C20: the delivered sequence is the complete lines of the initial files in start-up order, then
every line completed in the live file, once, in order, without its newline -/
theorem lines (files : List (Str × Str)) (ops : List FsOp) :
    Dir.run files ops = Dir.expected files ops := by
  unfold Dir.run Dir.expected
  rw [fold_inv ops (startup_inv files)]
  rfl

theorem delivered_lines_are_complete (p : Str) (ops : List FsOp) (hp : '\n' ∉ p) :
    ∀ l ∈ spec p ops, '\n' ∉ l := by
  induction ops generalizing p with
  | nil => simp [spec]
  | cons op ops ih =>
    intro l hl
    cases op with
    | append bs =>
      simp only [spec, List.mem_append] at hl
      rcases hl with hl | hl
      · exact split_lines_nonl p bs hp l hl
      · exact ih _ (split_pending_nonl p bs hp) l hl
    | rotate => exact ih [] (by simp) l (by simpa [spec] using hl)
    | truncate => exact ih [] (by simp) l (by simpa [spec] using hl)

theorem spec_append_complete (p bs : Str) (ops : List FsOp) :
    spec p (.append bs :: ops) = (split p bs).1 ++ spec (split p bs).2 ops := rfl

theorem order_sorted (names : List Str) :
    (sortNames names).Pairwise (fun a b => before a b = true) ∧
    (sortNames names).Perm (names.filter fun n => logPrefix.isPrefixOf n) :=
  ⟨List.pairwise_mergeSort before_trans before_total _, List.mergeSort_perm _ _⟩

theorem rotation_live : rotationNumber logPrefix = 0 := by decide

theorem numbered_order (n m : Nat) (hn : n ≤ maxU64) (hm : m ≤ maxU64) :
    before (logPrefix ++ '.' :: Nat.toDigits 10 n) (logPrefix ++ '.' :: Nat.toDigits 10 m) = true ↔
      (n > m ∨ (n = m)) := by
  rw [before_iff, rotationNumber_numbered n hn, rotationNumber_numbered m hm]
  constructor
  · rintro (h | ⟨h, _⟩)
    · exact Or.inl h
    · exact Or.inr h
  · rintro (h | h)
    · exact Or.inl h
    · subst h; exact Or.inr ⟨rfl, List.le_refl _⟩

theorem live_last (n : Nat) (hn : 1 ≤ n) (hn' : n ≤ maxU64) :
    before (logPrefix ++ '.' :: Nat.toDigits 10 n) logPrefix = true ∧
    before logPrefix (logPrefix ++ '.' :: Nat.toDigits 10 n) = false := by
  constructor
  · rw [before_iff, rotationNumber_numbered n hn', rotation_live]; exact Or.inl (by omega)
  · rw [← Bool.not_eq_true, before_iff, rotationNumber_numbered n hn', rotation_live]
    rintro (h | ⟨h, _⟩) <;> omega

theorem sortNames_eq_of_sorted (names l : List Str) (hs : l.Pairwise (fun a b => before a b = true))
    (hp : l.Perm (names.filter fun n => logPrefix.isPrefixOf n)) : sortNames names = l :=
  List.Perm.eq_of_pairwise (le := fun a b => before a b = true)
    (fun a b _ _ h1 h2 => before_antisymm a b h1 h2)
    (order_sorted names).1 hs ((order_sorted names).2.trans hp.symm)

theorem sort_single : sortNames [logPrefix] = [logPrefix] := by
  have : logPrefix.isPrefixOf logPrefix = true := by decide
  simp [sortNames, this]

/-- numeric, not lexicographic: 11, 10, 9, 2, 1, then the live log -/
example : sortNames ["audit.log".toList, "audit.log.1".toList, "audit.log.2".toList,
      "audit.log.9".toList, "audit.log.10".toList, "audit.log.11".toList] =
    ["audit.log.11".toList, "audit.log.10".toList, "audit.log.9".toList,
      "audit.log.2".toList, "audit.log.1".toList, "audit.log".toList] := by
  apply sortNames_eq_of_sorted
  · decide +kernel
  · have hf : (["audit.log".toList, "audit.log.1".toList, "audit.log.2".toList,
        "audit.log.9".toList, "audit.log.10".toList, "audit.log.11".toList].filter
          fun n => logPrefix.isPrefixOf n) =
        ["audit.log.11".toList, "audit.log.10".toList, "audit.log.9".toList,
          "audit.log.2".toList, "audit.log.1".toList, "audit.log".toList].reverse := by decide +kernel
    rw [hf]
    exact (List.reverse_perm _).symm

/-- start-up leaves offset = 2, lastSz = 0; the truncation is noticed through `size < offset` -/
example : Dir.run [("audit.log".toList, "a\n".toList)]
      [.truncate, .append "b\n".toList, .append "c\n".toList] =
    ["a".toList, "b".toList, "c".toList] := by
  have hs : sortNames ([("audit.log".toList, "a\n".toList)].map (·.1)) = ["audit.log".toList] := sort_single
  rw [lines]
  unfold Dir.expected
  rw [hs]
  decide

end AM.C20
