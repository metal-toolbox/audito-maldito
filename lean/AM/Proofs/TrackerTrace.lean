import AM.Spec.Tracker
import AM.Proofs.TrackerInv
/-! From theorems about `step` to the judge's clauses: the judge reads the emitted events, each with the index of the
operation that wrote it (`runTrace`), and the history as indexed lists. -/
namespace AM.Spec.Tracker
open AM.Tr

/-- `I n st` (before operation `n`) need only survive operations that return no error; what operation `n` appends to
`out`, error or not, must satisfy `Q`. -/
theorem runTrace_induction (h0 : List Op) {I : Nat → St → Prop} {Q : Emitted × Nat → Prop}
    (hstep : ∀ n st op, h0[n]? = some op → I n st → (step st op).2 = none → I (n + 1) (step st op).1)
    (hnew : ∀ n st op, h0[n]? = some op → I n st →
      ∃ new, (step st op).1.out = st.out ++ new ∧ ∀ em ∈ new, Q (em, n))
    (done rest : List Op) (st : St) (acc : List (Emitted × Nat))
    (hh : h0 = done ++ rest) (hi : I done.length st) (hacc : ∀ p ∈ acc, Q p) :
    ∀ p ∈ (runTrace st done.length rest acc).1, Q p := by
  induction rest generalizing done st acc with
  | nil => simpa [runTrace] using hacc
  | cons op ops ih =>
    have hop : h0[done.length]? = some op := by rw [hh]; simp
    obtain ⟨new, hnew, hq⟩ := hnew _ st op hop hi
    have hacc' : ∀ p ∈ acc ++ ((step st op).1.out.drop st.out.length).map (fun em => (em, done.length)), Q p := by
      intro p hp
      rcases List.mem_append.mp hp with hp | hp
      · exact hacc p hp
      · obtain ⟨em, hem, rfl⟩ := List.mem_map.mp hp
        exact hq em (by simpa [hnew] using hem)
    have hstep := hstep _ st op hop hi
    simp only [runTrace]
    generalize step st op = r at hstep hacc' ⊢
    obtain ⟨st', e⟩ := r
    cases e with
    | none => simpa using ih (done ++ [op]) st' _ (by rw [hh]; simp) (by simpa using hstep rfl) hacc'
    | some er => exact hacc'

theorem runTrace_out (st : St) (k : Nat) (ops : List Op) (acc : List (Emitted × Nat)) :
    (runTrace st k ops acc).1.map (·.1) = acc.map (·.1) ++ (run st ops).1.out.drop st.out.length := by
  induction ops generalizing st k acc with
  | nil => simp [runTrace, run]
  | cons op ops ih =>
    obtain ⟨n1, h1⟩ := out_step st op
    simp only [runTrace, run]
    generalize step st op = r at h1
    obtain ⟨st', e⟩ := r
    cases e with
    | none =>
      obtain ⟨n2, h2⟩ := out_run st' ops
      simp only at h1
      simp [ih, h1, h2, List.map_map, Function.comp_def]
    | some er => simp [List.map_map, Function.comp_def]

/-- the tracker invariant along the trace -/
theorem runTrace_justified (h0 done rest : List Op) (st : St) (acc : List (Emitted × Nat))
    (hh : h0 = done ++ rest) (hi : Inv done st) (hacc : ∀ p ∈ acc, OutOk (h0.take (p.2 + 1)) p.1) :
    ∀ p ∈ (runTrace st done.length rest acc).1, OutOk (h0.take (p.2 + 1)) p.1 := by
  refine runTrace_induction h0 (I := fun n st => Inv (h0.take n) st) (Q := fun p => OutOk (h0.take (p.2 + 1)) p.1)
    (fun n st op hop hI _ => take_succ_of_getElem? hop ▸ inv_step _ st op hI) (fun n st op hop hI => ?_)
    done rest st acc hh (by rw [hh, List.take_left' rfl]; exact hi) hacc
  obtain ⟨new, hnew⟩ := out_step st op
  refine ⟨new, hnew, fun em hem => ?_⟩
  show OutOk (h0.take (n + 1)) em
  rw [take_succ_of_getElem? hop]
  exact (inv_step _ st op hI).outOk em (hnew ▸ List.mem_append_right _ hem)

theorem trace_justified (failAt : Option Nat) (h : List Op) :
    ∀ p ∈ (runTrace { failAt := failAt } 0 h []).1, OutOk (h.take (p.2 + 1)) p.1 :=
  runTrace_justified h [] h { failAt := failAt } [] rfl (inv_init failAt) (by simp)

theorem trace_events (failAt : Option Nat) (h : List Op) :
    (runTrace { failAt := failAt } 0 h []).1.map (·.1) = (run { failAt := failAt } h).1.out := by
  simpa using runTrace_out { failAt := failAt } 0 h []

def actOf (p : Emitted × Nat) : ObsAction :=
  ⟨(toAuditEvent p.1.login p.1.ev).1, p.1.ev.ses, p.1.ev.ts, p.2⟩

@[simp] theorem actOf_aid (p : Emitted × Nat) : (actOf p).aid = p.1.ev.ses := rfl

theorem modelObs_acts (failAt : Option Nat) (h : List Op) :
    (modelObs failAt h).1.acts = (runTrace { failAt := failAt } 0 h []).1.map actOf := rfl

theorem spec_of_trace {f : ObsAction → Option String} {failAt : Option Nat} {h : List Op}
    (hf : ∀ p ∈ (runTrace { failAt := failAt } 0 h []).1, f (actOf p) = none) :
    (modelObs failAt h).1.acts.findSome? f = none := by
  rw [modelObs_acts]
  apply List.findSome?_eq_none_iff.mpr
  intro a ha
  obtain ⟨p, hp, rfl⟩ := List.mem_map.mp ha
  exact hf p hp

theorem mem_idxOps {h : List Op} {i : Nat} {op : Op} : (i, op) ∈ idxOps h ↔ h[i]? = some op := by
  unfold idxOps
  constructor
  · intro hm
    obtain ⟨n, hn⟩ := List.mem_iff_getElem?.mp hm
    obtain ⟨h1, h2⟩ := List.getElem?_zip_eq_some.mp hn
    have hlt : n < h.length := (List.getElem?_eq_some_iff.mp h2).1
    rw [List.getElem?_range hlt] at h1
    cases h1
    exact h2
  · intro hg
    have hi : i < h.length := (List.getElem?_eq_some_iff.mp hg).1
    exact List.mem_iff_getElem?.mpr ⟨i, List.getElem?_zip_eq_some.mpr ⟨by rw [List.getElem?_range hi], hg⟩⟩

theorem idxOps_append (a b : List Op) :
    idxOps (a ++ b) = idxOps a ++ (idxOps b).map fun p => (a.length + p.1, p.2) := by
  simp only [idxOps, List.length_append, List.range_add]
  rw [List.zip_append (by simp), List.zip_map_left]
  rfl

/-- the shape of `loginOps`, `auditRecs`, `loginRecs` -/
def picked {β} (g : Op → Option β) (h : List Op) : List (Nat × β) :=
  (idxOps h).filterMap fun p => (g p.2).map (p.1, ·)

theorem picked_append {β} (g : Op → Option β) (a b : List Op) :
    picked g (a ++ b) = picked g a ++ (picked g b).map fun x => (a.length + x.1, x.2) := by
  simp only [picked, idxOps_append, List.filterMap_append, List.filterMap_map, List.map_filterMap]
  congr 2
  funext p
  simp only [Function.comp_apply]
  cases g p.2 <;> rfl

theorem picked_snd {β} (g : Op → Option β) (h : List Op) : (picked g h).map (·.2) = h.filterMap g := by
  have hsnd : (idxOps h).map (·.2) = h := List.map_snd_zip (by simp)
  rw [picked, List.map_filterMap]
  conv => rhs; rw [← hsnd, List.filterMap_map]
  congr 1
  funext p
  simp only [Function.comp_apply]
  cases g p.2 <;> rfl

theorem picked_lt {β} (g : Op → Option β) (h : List Op) : ∀ x ∈ picked g h, x.1 < h.length := by
  intro x hx
  obtain ⟨p, hp, hg⟩ := List.mem_filterMap.mp hx
  have := (List.getElem?_eq_some_iff.mp (mem_idxOps.mp (show (p.1, p.2) ∈ idxOps h from hp))).1
  cases hgp : g p.2 with
  | none => simp [hgp] at hg
  | some b => simp [hgp] at hg; rw [← hg]; exact this

theorem picked_take {β} (g : Op → Option β) (h : List Op) (n : Nat) :
    (picked g h).filter (fun x => x.1 < n) = picked g (h.take n) := by
  have := picked_append g (h.take n) (h.drop n)
  rw [List.take_append_drop] at this
  rw [this, List.filter_append]
  have h1 : (picked g (h.take n)).filter (fun x => x.1 < n) = picked g (h.take n) :=
    List.filter_eq_self.mpr fun x hx => by
      have := picked_lt g _ x hx
      simp only [List.length_take] at this
      simp; omega
  have h2 : ((picked g (h.drop n)).map fun x => ((h.take n).length + x.1, x.2)).filter (fun x => x.1 < n) = [] := by
    apply List.filter_eq_nil_iff.mpr
    intro x hx
    obtain ⟨y, hy, rfl⟩ := List.mem_map.mp hx
    have := picked_lt g _ y hy
    simp only [List.length_take, List.length_drop] at this ⊢
    simp; omega
  rw [h1, h2, List.append_nil]

def pickOpener : Op → Option AEvent
  | .audit e _ => if e.typ = .login && !(e.ses = [] || e.ses = strOf "unset") then some e else none
  | _ => none

theorem loginRecs_eq (h : List Op) : loginRecs h = picked pickOpener h := by
  unfold loginRecs picked; congr 1; funext p
  cases p.2 <;> simp only [pickOpener] <;> first | rfl | (split <;> rfl)

theorem loginOps_eq (h : List Op) : loginOps h = picked pickLogin h := by
  unfold loginOps picked; congr 1; funext p; cases p.2 <;> rfl

theorem auditRecs_eq (h : List Op) : auditRecs h = picked pickAudit h := by
  unfold auditRecs picked; congr 1; funext p; cases p.2 <;> rfl

theorem picked_of_take {β} {g : Op → Option β} {h : List Op} {n : Nat} {b : β} (hb : b ∈ (h.take n).filterMap g) :
    ∃ i, i < n ∧ (i, b) ∈ picked g h := by
  rw [← picked_snd, ← picked_take] at hb
  obtain ⟨x, hx, rfl⟩ := List.mem_map.mp hb
  exact ⟨x.1, by simpa using (List.mem_filter.mp hx).2, (List.mem_filter.mp hx).1⟩

theorem auditRecs_of_take {h : List Op} {n : Nat} {e : AEvent} (he : e ∈ auditsOf (h.take n)) :
    ∃ i, i < n ∧ (i, e) ∈ auditRecs h :=
  auditRecs_eq h ▸ picked_of_take (auditsOf_eq _ ▸ he)

theorem loginOps_of_take {h : List Op} {n : Nat} {l : Login} (hl : l ∈ loginsOf (h.take n)) :
    ∃ i, i < n ∧ (i, l) ∈ loginOps h :=
  loginOps_eq h ▸ picked_of_take (loginsOf_eq _ ▸ hl)

theorem loginRecs_of_take {h : List Op} {n : Nat} {e : AEvent} (he : e ∈ auditsOf (h.take n))
    (ht : e.typ = .login) (h1 : e.ses ≠ []) (h2 : e.ses ≠ strOf "unset") : ∃ i, i < n ∧ (i, e) ∈ loginRecs h := by
  rw [auditsOf_eq] at he
  obtain ⟨op, hop, hg⟩ := List.mem_filterMap.mp he
  refine loginRecs_eq h ▸ picked_of_take (List.mem_filterMap.mpr ⟨op, hop, ?_⟩)
  cases op with
  | audit e' now => cases hg; simp [pickOpener, ht, h1, h2]
  | _ => cases hg

end AM.Spec.Tracker
