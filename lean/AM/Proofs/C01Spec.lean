import AM.Proofs.C01Latest
import AM.Proofs.C14Spec
/-! C01, the judge and the theorem meet: the executable clause `Spec.Tracker.specLatest` (a superseded login
never lends its identity) holds of the model's own observation for EVERY history and every write oracle;
`whole_identity_spec_holds` is taken over from `C14Spec`. -/
namespace AM.C01S
open AM.Tr AM.Spec.Tracker AM.C01L

theorem lastValid_take (p : Int) (h : List Op) (idx : Nat) :
    lastValid p (h.take (idx + 1)) =
      (((loginOps h).filter fun l => l.2.pid = p && l.2.valid && l.1 ≤ idx).getLast?).map (·.2) := by
  rw [lastValid, loginsOf_eq, ← picked_snd, ← picked_take, ← loginOps_eq, List.filter_map, List.getLast?_map,
    List.filter_filter]
  congr 2
  apply List.filter_congr
  intro x _
  have : decide (x.1 < idx + 1) = decide (x.1 ≤ idx) := by congr 1; apply propext; omega
  simp only [Function.comp_apply, this]
  by_cases hp : x.2.pid = p <;> by_cases hi : x.1 ≤ idx <;> cases x.2.valid <;> simp [hp, hi]

theorem openers_eq (p : Int) (h : List Op) :
    openers p h = (h.filterMap pickOpener).filter fun e => atoi e.pidTok = some p := by
  rw [openers, auditsOf_eq, List.filter_filterMap, List.filter_filterMap]
  congr 1
  funext op
  cases op with
  | audit e now =>
    simp only [pickAudit, pickOpener, isOpenerOf, Option.filter]
    by_cases h3 : atoi e.pidTok = some p <;> by_cases h4 : e.typ = .login <;>
      by_cases h5 : e.ses = [] <;> by_cases h6 : e.ses = strOf "unset" <;> simp [h3, h4, h5, h6]
  | _ => rfl

/-- **The judge accepts the model, for every history.** -/
theorem latest_spec_holds (failAt : Option Nat) (h : List Op) :
    specLatest h (modelObs failAt h).1 = none := by
  refine spec_of_trace fun q hq => ?_
  obtain ⟨_, _, _, r, hrm, hty, hses, hpid, hne, hnu⟩ := trace_justified failAt h q hq
  -- `a` stands for the observed event; only these three facts about it are used
  have haid : (actOf q).aid = q.1.ev.ses := rfl
  have hidx : (actOf q).idx = q.2 := rfl
  have hid : (actOf q).identity = identOf q.1.login := rfl
  generalize actOf q = a at haid hidx hid ⊢
  cases hop : opener h a.aid with
  | none => rfl
  | some ir =>
    obtain ⟨i0, rec⟩ := ir
    simp only
    cases hat : atoi rec.pidTok with
    | none => rfl
    | some p =>
      simp only
      split
      · rfl
      · rename_i hcounts
        simp only [Bool.or_eq_true, decide_eq_true_eq, not_or, ne_eq, Decidable.not_not] at hcounts
        obtain ⟨hc1, hc2⟩ := hcounts
        -- the opener is the session's only LOGIN record, hence the record that justifies the event
        obtain ⟨i, _, hrec⟩ := loginRecs_of_take hrm hty (hses ▸ hne) (hses ▸ hnu)
        have hop : (loginRecs h).find? (fun r' => r'.2.ses = a.aid) = some (i0, rec) := hop
        have hsame : rec = r :=
          have hrs := List.find?_some hop
          congrArg Prod.snd (eq_of_filter_length_one hc1 (List.mem_of_find?_eq_some hop) hrec hrs (by simpa [haid] using hses))
        subst hsame
        have hpq : q.1.login.pid = p := (Option.some.inj (hat ▸ hpid)).symm
        have hone : (openers p h).length ≤ 1 := by
          rw [openers_eq, ← picked_snd, ← loginRecs_eq, List.filter_map, List.length_map]
          exact Nat.le_of_eq hc2
        have hl := trace_latest p failAt h hone q hq hpq
        rw [lastValid_take, ← hidx] at hl
        cases hg : ((loginOps h).filter fun l => l.2.pid = p && l.2.valid && l.1 ≤ a.idx).getLast? with
        | none => rfl
        | some jl =>
          rw [hg] at hl
          simp only [Option.map_some, Option.some.injEq] at hl
          simp [hl, hid]

/-- C01's first sentence, for EVERY history and write oracle: the identity content of an emitted event is, as a whole,
that of one delivered login (`Spec.Tracker.specWholeIdentity`, part of C01's judge; proved in `C14Spec`) -/
theorem whole_identity_spec_holds (failAt : Option Nat) (h : List Op) :
    specWholeIdentity h (modelObs failAt h).1 = none := AM.C14S.whole_identity_spec_holds failAt h

end AM.C01S
