import AM.Proofs.Forms
import AM.Proofs.C11
/-! C05 — for EVERY line: a login is handed to the correlator only right after the successful
write of a succeeded event, with the line's PID and that event's `userID`; a failed write is
returned as an error and nothing is forwarded; a written succeeded event is forwarded unless the
context is cancelled. Corollaries of `Sshd.process_shape`; `accepted_forms` is `Sshd.form_correct`. -/
namespace AM.C05
open AM.Sshd AM.Spec

theorem no_forward_without_success (cfg : Cfg) (pid line : Str) (ok : Bool) (h : Handoff) :
    sendsFollowSuccess (process cfg pid line ok h).effs = true :=
  C11.login_only_with_succeeded_event cfg pid line ok h

theorem write_failure (cfg : Cfg) (pid line : Str) (h : Handoff) :
    sends (process cfg pid line false h) = [] ∧
      (writes (process cfg pid line false h) ≠ [] → (process cfg pid line false h).res = .err) := by
  have hs := process_shape cfg pid line false h
  generalize process cfg pid line false h = o at hs
  cases hs with
  | quiet is _ => exact ⟨sends_incs _ _, fun hw => absurd (writes_incs _ _) hw⟩
  | wfail => exact ⟨by simp [sends], fun _ => rfl⟩
  | wok _ _ _ _ _ hok => cases hok
  | wsend _ _ _ _ _ _ _ hok => cases hok

theorem forwarded_login_matches (cfg : Cfg) (pid line : Str) (ok : Bool) (h : Handoff) (n : Int) (c : Str) :
    (n, c) ∈ sends (process cfg pid line ok h) →
      atoi pid = some n ∧ ∃ e, (e, true) ∈ writes (process cfg pid line ok h) ∧
        e.outcome = "succeeded" ∧ aLookup "userID" e.subjects = some c := by
  have hs := process_shape cfg pid line ok h
  generalize process cfg pid line ok h = o at hs
  intro hm
  cases hs with
  | quiet is _ => simp [sends_incs] at hm
  | wfail => simp [sends] at hm
  | wok => simp [sends] at hm
  | wsend m oc e n' c' _ _ _ _ hout hn hc =>
    simp [sends] at hm
    obtain ⟨rfl, rfl⟩ := hm
    exact ⟨hn, e, by simp [writes], hout, hc⟩

theorem succeeded_event_is_forwarded (cfg : Cfg) (pid line : Str) (e : Ev) :
    (e, true) ∈ writes (process cfg pid line true .ready) → e.outcome = "succeeded" →
      (sends (process cfg pid line true .ready)).length = 1 := by
  have hs := process_shape cfg pid line true .ready
  generalize process cfg pid line true .ready = o at hs
  intro hm hout
  cases hs with
  | quiet is _ => simp [writes_incs] at hm
  | wfail _ _ _ _ _ hok => cases hok
  | wok _ _ e' _ _ _ hcan =>
    simp [writes] at hm
    subst hm
    cases hcan hout
  | wsend => simp [sends]

theorem cancel_is_honoured (cfg : Cfg) (pid line : Str) :
    sends (process cfg pid line true .cancel) = [] ∧ (process cfg pid line true .cancel).res = .nil := by
  have hs := process_shape cfg pid line true .cancel
  generalize process cfg pid line true .cancel = o at hs
  cases hs with
  | quiet is _ => exact ⟨sends_incs _ _, rfl⟩
  | wfail _ _ _ _ _ hok => cases hok
  | wok => exact ⟨by simp [sends], rfl⟩
  | wsend _ _ _ _ _ _ _ _ hr => cases hr

theorem spec_holds (cfg : Cfg) (pid line : Str) (ok : Bool) (h : Handoff) :
    specC05 pid ok h (process cfg pid line ok h) = none := by
  -- each shape is a literal list of effects: the clauses of `specC05` are evaluated on it
  have hs := process_shape cfg pid line ok h
  generalize process cfg pid line ok h = o at hs
  cases hs with
  | quiet is _ =>
    simp only [specC05, sendsFollowSuccess_incs, sends_incs, writes_incs]
    simp
  | wfail m oc e _ _ hok =>
    subst hok
    simp [specC05, sendsFollowSuccess, sends, writes]
  | wok m oc e _ _ hok hcan =>
    subst hok
    simp only [specC05, sendsFollowSuccess, sends, writes]
    cases h with
    | cancel => simp
    | ready =>
      have : e.outcome ≠ "succeeded" := fun h0 => by cases hcan h0
      simp [this]
  | wsend m oc e n c _ _ hok hr hout hn hc =>
    subst hok; subst hr
    simp [specC05, sendsFollowSuccess, sends, writes, hout, hn, hc]

/-- the full trace of the three accepted-authentication forms, for all field values of C06's
domain and every PID token that parses: the metric increment, ONE succeeded event with exactly
the message's fields, then — unless the write fails or the context is cancelled — exactly one
login with the line's PID, the certificate key ID (or `unknown`) and the event just written -/
theorem accepted_forms (cfg : Cfg) (pid : Str) (f : Form) (fs : List Str) (ok : Bool) (h : Handoff)
    (ha : f.accepted = true) (hd : inDomain f fs = true) (hpid : ∃ n, atoi pid = some n) :
    ∀ line, lineOf f fs = some line →
      some (process cfg pid line ok h) = expectedOut cfg pid f fs ok h :=
  Sshd.form_correct cfg pid f fs ok h hd (fun _ => hpid)

end AM.C05
