import AM.Proofs.SshdShape
/-! C11 for EVERY line: an event is written only for a line that begins with a recognised keyword,
and every value extracted into the event is a verbatim substring of the line (or what
`encoding/json` makes of one) or one of the fixed placeholders. `provB_of_fixed` says the latter in the judge's
Boolean form `provB`: it is what `C11.spec_holds` needs. -/
namespace AM.C11P
open AM.Spec AM.Gen AM.Sshd

theorem writes_nil (r : Res) : writes ⟨[], r⟩ = [] := rfl

theorem keyword (cfg : Cfg) (pid line : Str) (ok : Bool) (h : Handoff) :
    writes (process cfg pid line ok h) ≠ [] → hasKeyword line = true := by
  intro hw
  rcases process_writes cfg pid line ok h with ⟨hw0, _⟩ | ⟨_, _, _, _, hl, _, _⟩
  · exact absurd hw0 hw
  · exact hl.2.2.2

theorem provenance (cfg : Cfg) (pid line : Str) (ok : Bool) (h : Handoff) (e : Ev) (b : Bool) :
    (e, b) ∈ writes (process cfg pid line ok h) →
      ∀ v ∈ evValues e, v ∈ placeholders cfg pid ∨ ∃ t, t <:+: line ∧ (v = t ∨ v = jsonCoerce t) := by
  intro hm
  obtain ⟨_, _, hfix, _, _⟩ := written_event hm
  exact hfix.2

theorem mem_substrings_of_infix {t x : Str} (h : t <:+: x) : t ∈ substrings x := by
  obtain ⟨a, b, rfl⟩ := h
  simp only [substrings, List.mem_flatMap, List.mem_range, List.mem_map]
  refine ⟨a.length, by simp; omega, t.length, by simp; omega, ?_⟩
  rw [List.append_assoc, List.drop_left, List.take_left]

theorem provB_complete (line v : Str) :
    (∃ t, t <:+: line ∧ (v = t ∨ v = jsonCoerce t)) → provB line v = true := by
  rintro ⟨t, ht, rfl | rfl⟩
  · simp [provB, isInfix_of_infix ht]
  · simp only [provB, Bool.or_eq_true, List.any_eq_true, beq_iff_eq]
    exact Or.inr ⟨t, mem_substrings_of_infix ht, rfl⟩

theorem provB_of_fixed {cfg : Cfg} {pid line : Str} {e : Ev} (h : Fixed cfg pid line e) :
    ∀ v ∈ evValues e, v ∉ placeholders cfg pid → provB line v = true := by
  intro v hv hn
  rcases h.2 v hv with hp | hp
  · exact absurd hp hn
  · exact provB_complete line v hp

/-- the `field-not-from-line` clause of `specC11` never fires on the model's own output -/
theorem provenance_check (cfg : Cfg) (pid line : Str) (ok : Bool) (h : Handoff) :
    ((writes (process cfg pid line ok h)).any fun w => (evValues w.1).any fun v =>
      !((placeholders cfg pid).contains v) && !provB line v) = false := by
  rcases process_writes cfg pid line ok h with ⟨hw, _⟩ | ⟨_, _, e, hfix, _, hw, _⟩
  · rw [hw]; rfl
  · simpa [hw] using provB_of_fixed hfix

end AM.C11P
