import AM.Proofs.TrackerStep
/-! The identity invariant of the session tracker: everything the tracker holds or has emitted is justified by the
history that was delivered to it — for all histories, all write oracles, and in the states returned with an error. -/
namespace AM.Tr

/-- logins delivered by the history, in order -/
def loginsOf : List Op → List Login
  | [] => []
  | .remoteLogin l :: r => l :: loginsOf r
  | _ :: r => loginsOf r

/-- audit events delivered by the history, in order -/
def auditsOf : List Op → List AEvent
  | [] => []
  | .audit e _ :: r => e :: auditsOf r
  | _ :: r => auditsOf r

def pickLogin : Op → Option Login | .remoteLogin l => some l | _ => none
def pickAudit : Op → Option AEvent | .audit e _ => some e | _ => none

theorem loginsOf_eq (h : List Op) : loginsOf h = h.filterMap pickLogin := by
  induction h with
  | nil => rfl
  | cons op r ih => cases op <;> simp [loginsOf, List.filterMap_cons, pickLogin, ih]

theorem auditsOf_eq (h : List Op) : auditsOf h = h.filterMap pickAudit := by
  induction h with
  | nil => rfl
  | cons op r ih => cases op <;> simp [auditsOf, List.filterMap_cons, pickAudit, ih]

theorem loginsOf_append (h h' : List Op) : loginsOf (h ++ h') = loginsOf h ++ loginsOf h' := by
  simp [loginsOf_eq]

theorem auditsOf_append (h h' : List Op) : auditsOf (h ++ h') = auditsOf h ++ auditsOf h' := by
  simp [auditsOf_eq]

theorem loginsOf_snoc (h : List Op) (op : Op) : loginsOf (h ++ [op]) = loginsOf h ++ (pickLogin op).toList := by
  cases hp : pickLogin op <;> simp [loginsOf_eq, hp]

theorem auditsOf_snoc (h : List Op) (op : Op) : auditsOf (h ++ [op]) = auditsOf h ++ (pickAudit op).toList := by
  cases hp : pickAudit op <;> simp [auditsOf_eq, hp]

theorem mem_loginsOf_snoc (h : List Op) (l : Login) : l ∈ loginsOf (h ++ [.remoteLogin l]) := by
  simp [loginsOf_snoc, pickLogin]

theorem mem_auditsOf_snoc (h : List Op) (e : AEvent) (now : Time) : e ∈ auditsOf (h ++ [.audit e now]) := by
  simp [auditsOf_snoc, pickAudit]

theorem mem_loginsOf_append {h : List Op} (h' : List Op) {l : Login} (hl : l ∈ loginsOf h) :
    l ∈ loginsOf (h ++ h') := by
  rw [loginsOf_append]; exact List.mem_append_left _ hl

theorem mem_auditsOf_append {h : List Op} (h' : List Op) {e : AEvent} (he : e ∈ auditsOf h) :
    e ∈ auditsOf (h ++ h') := by
  rw [auditsOf_append]; exact List.mem_append_left _ he

/-- `e` is a LOGIN record that opens session `s` for PID `p` -/
def isOpener (e : AEvent) (s : Str) (p : Int) : Prop :=
  e.typ = .login ∧ e.ses = s ∧ atoi e.pidTok = some p ∧ s ≠ [] ∧ s ≠ strOf "unset"

/-- an emitted event is justified by the history `h` -/
def OutOk (h : List Op) (em : Emitted) : Prop :=
  em.ev ∈ auditsOf h ∧ em.login ∈ loginsOf h ∧ em.login.valid = true ∧
    ∃ r ∈ auditsOf h, isOpener r em.ev.ses em.login.pid

/-- everything held in the state or emitted was delivered by the history, under its own PID and
session -/
structure Inv (h : List Op) (st : St) : Prop where
  parked : ∀ p l, (p, l) ∈ st.logins → l ∈ loginsOf h ∧ l.pid = p ∧ l.valid = true
  bound : ∀ s u l, (s, u) ∈ st.sessions → u.login = some l →
    l ∈ loginsOf h ∧ l.pid = u.srcPID ∧ l.valid = true
  opened : ∀ s u, (s, u) ∈ st.sessions → ∃ e ∈ auditsOf h, isOpener e s u.srcPID
  cachedOk : ∀ s u e, (s, u) ∈ st.sessions → e ∈ u.cached → e.ses = s ∧ e ∈ auditsOf h
  outOk : ∀ em ∈ st.out, em.ev ∈ auditsOf h ∧ em.login ∈ loginsOf h ∧ em.login.valid = true ∧
    ∃ r ∈ auditsOf h, isOpener r em.ev.ses em.login.pid
  uniqS : aUnique st.sessions
  uniqL : aUnique st.logins

theorem inv_init (failAt : Option Nat) : Inv [] { failAt := failAt } :=
  ⟨by simp, by simp, by simp, by simp, by simp, aUnique_nil, aUnique_nil⟩

def SesOk (h : List Op) (s : Str) (u : User) : Prop :=
  (∀ l, u.login = some l → l ∈ loginsOf h ∧ l.pid = u.srcPID ∧ l.valid = true) ∧
  (∃ e ∈ auditsOf h, isOpener e s u.srcPID) ∧
  (∀ e ∈ u.cached, e.ses = s ∧ e ∈ auditsOf h)

theorem Inv.ses {h : List Op} {st : St} (hi : Inv h st) : ∀ x ∈ st.sessions, SesOk h x.1 x.2 :=
  fun x hm => ⟨fun l hl => hi.bound x.1 x.2 l hm hl, hi.opened x.1 x.2 hm, fun e he => hi.cachedOk x.1 x.2 e hm he⟩

theorem Inv.ofParts {h : List Op} {st : St}
    (parked : ∀ p l, (p, l) ∈ st.logins → l ∈ loginsOf h ∧ l.pid = p ∧ l.valid = true)
    (ses : ∀ x ∈ st.sessions, SesOk h x.1 x.2)
    (outOk : ∀ em ∈ st.out, OutOk h em)
    (uniqS : aUnique st.sessions) (uniqL : aUnique st.logins) : Inv h st :=
  ⟨parked, fun s u l hm hl => (ses (s, u) hm).1 l hl, fun s u hm => (ses (s, u) hm).2.1,
    fun s u e hm he => (ses (s, u) hm).2.2 e he, outOk, uniqS, uniqL⟩

theorem SesOk.mono {h : List Op} (h' : List Op) {s : Str} {u : User} (hs : SesOk h s u) :
    SesOk (h ++ h') s u := by
  obtain ⟨h1, ⟨e, he, ho⟩, h3⟩ := hs
  exact ⟨fun l hl => ⟨mem_loginsOf_append h' (h1 l hl).1, (h1 l hl).2⟩,
    ⟨e, mem_auditsOf_append h' he, ho⟩,
    fun e he => ⟨(h3 e he).1, mem_auditsOf_append h' (h3 e he).2⟩⟩

theorem OutOk.mono {h : List Op} (h' : List Op) {em : Emitted} (ho : OutOk h em) :
    OutOk (h ++ h') em := by
  obtain ⟨h1, h2, h3, r, hr, hop⟩ := ho
  exact ⟨mem_auditsOf_append h' h1, mem_loginsOf_append h' h2, h3, r, mem_auditsOf_append h' hr, hop⟩

theorem Inv.mono {h : List Op} {st : St} (h' : List Op) (hi : Inv h st) : Inv (h ++ h') st :=
  Inv.ofParts
    (fun p l hm => ⟨mem_loginsOf_append h' (hi.parked p l hm).1, (hi.parked p l hm).2⟩)
    (fun x hx => (hi.ses x hx).mono h')
    (fun em hem => OutOk.mono h' (hi.outOk em hem))
    hi.uniqS hi.uniqL

theorem Inv.entry {h : List Op} {st : St} {e : AEvent} {now : Time} {u : User} {L : List (Int × Login)}
    (hi : Inv h st) (he : e ∈ auditsOf h) (h1 : e.ses ≠ []) (h2 : e.ses ≠ strOf "unset") (hE : Entry st e now u L) :
    SesOk h e.ses u ∧ Inv h { st with logins := L } := by
  cases hE with
  | tracked hlook => exact ⟨hi.ses _ (aLookup_mem hlook), hi⟩
  | opened hlook ht hp =>
    exact ⟨⟨fun l hl => hi.parked _ l (aLookup_mem hl), ⟨e, he, ht, rfl, hp, h1, h2⟩, by simp⟩,
      Inv.ofParts (fun p l hm => hi.parked p l (mem_aErase hm).1) hi.ses hi.outOk hi.uniqS (aUnique_erase hi.uniqL)⟩

theorem Inv.flush {h : List Op} {st : St} {s : Str} {u : User} {l : Login} {extra : List AEvent} {close : Bool}
    (hi : Inv h st) (hs : SesOk h s u) (hl : u.login = some l)
    (hx : ∀ e ∈ extra, e.ses = s ∧ e ∈ auditsOf h) : Inv h (st.flush s u l extra close) := by
  obtain ⟨hlg, hpid, hv⟩ := hs.1 l hl
  refine Inv.ofParts hi.parked ?_ ?_ (St.flush_uniqS hi.uniqS) hi.uniqL
  · intro x hx'
    rcases St.mem_flush hx' with ⟨hx', _⟩ | rfl
    · exact hi.ses x hx'
    · refine ⟨hs.1, hs.2.1, fun e he => hs.2.2 e ?_⟩
      simp only at he
      split at he
      · cases he
      · exact he
  · intro em hem
    rcases List.mem_append.mp hem with hm | hm
    · exact hi.outOk em hm
    · obtain ⟨h1, h2⟩ := mem_under.mp hm
      have h3 : em.ev.ses = s ∧ em.ev ∈ auditsOf h := by
        rcases List.mem_append.mp (List.mem_of_mem_take h2) with h2 | h2
        · exact hs.2.2 _ h2
        · exact hx _ h2
      exact ⟨h3.2, h1 ▸ hlg, h1 ▸ hv, by rw [h1, h3.1, hpid]; exact hs.2.1⟩

theorem Inv.step {h : List Op} {st st' : St} {op : Op} {err : Option Err} (hi : Inv h st)
    (hs : Step st op st' err) : Inv (h ++ [op]) st' := by
  -- the old state is justified by the longer history too: each rule accounts only for what it adds
  have keep : Inv (h ++ [op]) st := hi.mono [op]
  cases hs with
  | skip => exact keep
  | park hv hno =>
    refine Inv.ofParts ?_ keep.ses keep.outOk keep.uniqS (aUnique_store keep.uniqL)
    intro p l' hm
    rcases mem_aStore hm with heq | ⟨hm', _⟩
    · cases heq; exact ⟨mem_loginsOf_snoc h _, rfl, hv⟩
    · exact keep.parked p l' hm'
  | @release l s u more hv hf =>
    obtain ⟨hm, hpid⟩ := matched hf
    have hsu := keep.ses _ hm
    have hl := mem_loginsOf_snoc h l
    -- (`ofParts` re-reads `keep` for the state with `ambiguous` set)
    refine Inv.flush (u := { u with login := some l })
      (Inv.ofParts keep.parked keep.ses keep.outOk keep.uniqS keep.uniqL)
      ⟨fun l' hl' => ?_, hsu.2.1, hsu.2.2⟩ rfl (by simp)
    cases hl'
    exact ⟨hl, hpid.symm, hv⟩
  | @hold e now u L h1 h2 hE hn =>
    obtain ⟨hsu, hi'⟩ := keep.entry (mem_auditsOf_snoc h e now) h1 h2 hE
    refine Inv.ofParts hi'.parked ?_ hi'.outOk (aUnique_store hi'.uniqS) hi'.uniqL
    intro x hx
    rcases mem_aStore hx with rfl | ⟨hx, _⟩
    · refine ⟨hsu.1, hsu.2.1, fun e' he' => ?_⟩
      rcases List.mem_append.mp he' with he' | he'
      · exact hsu.2.2 e' he'
      · cases List.mem_singleton.mp he'; exact ⟨rfl, mem_auditsOf_snoc h e now⟩
    · exact hi'.ses x hx
  | @emit e now u L l h1 h2 hE hl =>
    have he := mem_auditsOf_snoc h e now
    obtain ⟨hsu, hi'⟩ := keep.entry he h1 h2 hE
    exact hi'.flush hsu hl (fun e' he' => by cases List.mem_singleton.mp he'; exact ⟨rfl, he⟩)
  | cleanSessions t =>
    exact Inv.ofParts keep.parked (fun x hx => keep.ses x (List.mem_filter.mp hx).1) keep.outOk
      (aUnique_filter keep.uniqS) keep.uniqL
  | cleanLogins t =>
    exact Inv.ofParts (fun p l hm => keep.parked p l (List.mem_filter.mp hm).1) keep.ses keep.outOk
      keep.uniqS (aUnique_filter keep.uniqL)

/-- one operation, with whatever outcome (the state returned with an error included) -/
theorem inv_step (h : List Op) (st : St) (op : Op) (hi : Inv h st) :
    Inv (h ++ [op]) (step st op).1 :=
  hi.step (step_spec st op)

theorem inv_run_executed (done : List Op) (st : St) (ops : List Op) (hi : Inv done st) :
    Inv (done ++ executed st ops) (run st ops).1 :=
  run_induction inv_step done st ops hi

theorem inv_run (done : List Op) (st : St) (ops : List Op) (hi : Inv done st) :
    Inv (done ++ ops) (run st ops).1 := by
  obtain ⟨rest, hr⟩ := executed_prefix st ops
  have := (inv_run_executed done st ops hi).mono rest
  rwa [List.append_assoc, hr] at this

theorem inv_run_init (failAt : Option Nat) (h : List Op) :
    Inv h (run { failAt := failAt } h).1 := by
  simpa using inv_run [] { failAt := failAt } h (inv_init failAt)

end AM.Tr
