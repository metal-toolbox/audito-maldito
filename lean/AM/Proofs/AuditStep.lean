import AM.Model.AuditProc
import AM.Proofs.TrackerInv
/-! The audit processor's step and run. First, in namespace `AM.C15`, the words C15's statements are written in.
The step, `stepIn_nf`: an input leaves the state as `absorb (evict st (reasm c st i)) ops errs` — the parser thread's
move, then what the callback made the correlator do and note. Then the run inductions (`runCore_ind`, `runCore_inv`)
and `ErrInv`, about the error slot. -/
namespace AM.C15
open AM.AP

/-- logins that arrived on the `Logins` channel -/
def loginsIn : List In → List AM.Tr.Login
  | [] => []
  | .login l :: rest => l :: loginsIn rest
  | _ :: rest => loginsIn rest

/-- the raw text of the first rejected line -/
def firstRej : List In → Option Str
  | [] => none
  | .line raw none :: _ => some raw
  | _ :: rest => firstRej rest

/-- the records of the accepted lines before the first rejected one -/
def acceptedUpto : List In → List Rec
  | [] => []
  | .line _ none :: _ => []
  | .line _ (some r) :: rest => r :: acceptedUpto rest
  | _ :: rest => acceptedUpto rest

theorem loginsIn_append (a b : List In) : loginsIn (a ++ b) = loginsIn a ++ loginsIn b := by
  induction a with
  | nil => rfl
  | cons i rest ih => cases i <;> simp [loginsIn, ih]

theorem firstRej_append (a b : List In) : firstRej (a ++ b) = (firstRej a).or (firstRej b) := by
  induction a with
  | nil => rfl
  | cons i rest ih =>
    cases i with
    | line raw p => cases p <;> simp [firstRej, ih]
    | _ => simpa [firstRej] using ih

theorem acceptedUpto_append (a b : List In) :
    acceptedUpto (a ++ b) = acceptedUpto a ++ (firstRej a).elim (acceptedUpto b) fun _ => [] := by
  induction a with
  | nil => rfl
  | cons i rest ih =>
    cases i with
    | line raw p => cases p <;> simp [acceptedUpto, firstRej, ih]
    | _ => simpa [acceptedUpto, firstRej] using ih

end AM.C15

namespace AM.AP
open AM AM.Tr
open AM.C15 (loginsIn firstRej acceptedUpto)

def cbKind (e : PErr) : Prop := e = .coalesce ∨ ∃ x, e = .cb x

/-- the parser thread's side of a step -/
structure Evn where
  rs : List Rec
  fl : List (Nat × Entry)
  gs : List (List Rec)
  forced : Bool
  perr : Option PErr

def idle (st : St) : Evn := ⟨[], st.fl, [], false, st.parserErr⟩

/-- `parseAuditLogs`: once it has returned nothing is read any more;
a rejected line makes it return; an accepted one goes to `PushMessage` (`Put`, then `CleanUp`).
`expire` is `Maintain` finding everything timed out. -/
def reasm (c : Cfg) (st : St) : In → Evn
  | .line raw p =>
    if st.parserErr.isSome then idle st else
    match p with
    | none => { idle st with perr := some (.parse raw) }
    | some r =>
      let x := cleanUp c.max false (put st.fl r)
      ⟨[r], x.1, x.2.1, x.2.2, none⟩
  | .expire =>
    let x := cleanUp c.max true st.fl
    ⟨[], x.1, x.2.1, x.2.2, st.parserErr⟩
  | _ => idle st

/-- `evict` and `absorb` are record updates of disjoint fields: every field of
`absorb (evict st x) ops errs` is read by `rfl` -/
def evict (st : St) (x : Evn) : St :=
  { st with pushed := st.pushed ++ x.rs, fl := x.fl, delivered := st.delivered ++ x.gs,
            forced := st.forced || x.forced, parserErr := x.perr }

theorem reasm_parser (c : Cfg) (st : St) (i : In) :
    (reasm c st i).rs = (st.parserErr.elim (acceptedUpto [i]) fun _ => []) ∧
    (reasm c st i).perr = st.parserErr.or ((firstRej [i]).map .parse) := by
  rcases Option.eq_none_or_eq_some st.parserErr with hp | ⟨e, hp⟩
  · cases i with
    | line raw p => cases p <;> simp [reasm, idle, hp, acceptedUpto, firstRej]
    | _ => simp [reasm, idle, hp, acceptedUpto, firstRej]
  · cases i <;> simp [reasm, idle, hp]

def absorb (st : St) (ops : List Tr.Op) (errs : List PErr) : St :=
  { st with tr := ops.foldl (fun s op => (Tr.step s op).1) st.tr, trHist := st.trHist ++ ops,
            handed := st.handed ++ auditsOf ops, clock := st.clock + (auditsOf ops).length,
            cbErrs := st.cbErrs ++ errs, slot := st.slot.or errs.head? }

theorem absorb_absorb (st : St) (o1 o2 : List Tr.Op) (e1 e2 : List PErr) :
    absorb (absorb st o1 e1) o2 e2 = absorb st (o1 ++ o2) (e1 ++ e2) := by
  simp [absorb, auditsOf_append, List.foldl_append, Nat.add_assoc, Option.or_assoc, List.head?_append]

theorem callback_nf (a : Time) (st : St) (g : List Rec) : ∃ ops errs,
    callback a st g = absorb { st with delivered := st.delivered ++ [g] } ops errs ∧
    loginsOf ops = [] ∧ ∀ e ∈ errs, cbKind e := by
  unfold callback
  split
  · exact ⟨[], [.coalesce], by simp [absorb, noteErr, auditsOf], rfl, by simp [cbKind]⟩
  · rename_i ev _
    split
    · exact ⟨[], [], by simp [absorb, auditsOf], rfl, by simp⟩
    · dsimp only
      split
      · exact ⟨[.audit ev st.clock], [], by simp [absorb, auditsOf, Tr.step], rfl, by simp⟩
      · rename_i e _
        exact ⟨[.audit ev st.clock], [.cb e], by simp [absorb, noteErr, auditsOf, Tr.step], rfl, by simp [cbKind]⟩

theorem foldl_callback_nf (a : Time) (gs : List (List Rec)) (st : St) : ∃ ops errs,
    gs.foldl (callback a) st = absorb { st with delivered := st.delivered ++ gs } ops errs ∧
    loginsOf ops = [] ∧ ∀ e ∈ errs, cbKind e := by
  induction gs generalizing st with
  | nil => exact ⟨[], [], by simp [absorb, auditsOf], rfl, by simp⟩
  | cons g gs ih =>
    obtain ⟨o1, e1, h1, l1, k1⟩ := callback_nf a st g
    obtain ⟨o2, e2, h2, l2, k2⟩ := ih (callback a st g)
    refine ⟨o1 ++ o2, e1 ++ e2, ?_, by simp [loginsOf_append, l1, l2], ?_⟩
    · rw [List.foldl_cons, h2, h1, ← absorb_absorb]
      -- `absorb` leaves `delivered` alone, so the group delivered first can join the others
      show absorb (absorb { st with delivered := st.delivered ++ [g] ++ gs } o1 e1) o2 e2 = _
      rw [List.append_assoc]
      rfl
    · intro e he
      rcases List.mem_append.mp he with he | he
      · exact k1 e he
      · exact k2 e he

/-- only the callback puts anything into the slot; the main loop takes its result out of it, and then
`Read` returns -/
theorem stepIn_nf (c : Cfg) (st : St) (i : In) : ∃ ops errs sl,
    (stepIn c st i).1 = { absorb (evict st (reasm c st i)) ops errs with slot := sl } ∧
    loginsOf ops = loginsIn [i] ∧ (∀ e ∈ errs, cbKind e) ∧
    ((stepIn c st i).2 = none → sl = st.slot.or errs.head?) := by
  have nf : ∀ ops errs, (stepIn c st i).1 = absorb (evict st (reasm c st i)) ops errs → loginsOf ops = loginsIn [i] →
      (∀ e ∈ errs, cbKind e) → ∃ ops errs sl,
        (stepIn c st i).1 = { absorb (evict st (reasm c st i)) ops errs with slot := sl } ∧
        loginsOf ops = loginsIn [i] ∧ (∀ e ∈ errs, cbKind e) ∧
        ((stepIn c st i).2 = none → sl = st.slot.or errs.head?) :=
    fun ops errs h hl hk => ⟨ops, errs, st.slot.or errs.head?, h, hl, hk, fun _ => rfl⟩
  -- every input but one leaves the slot to `absorb` (`nf`); most change nothing at all (`same`)
  have same : (stepIn c st i).1 = st → reasm c st i = idle st → loginsIn [i] = [] → _ :=
    fun h hr hl => nf [] [] (by rw [h, hr]; simp [idle, evict, absorb, auditsOf]) hl.symm (by simp)
  cases i with
  | line raw p =>
    rcases Option.eq_none_or_eq_some st.parserErr with hp | ⟨e, hp⟩
    · cases p with
      | none => exact nf [] [] (by simp [stepIn, hp, reasm, idle, evict, absorb, auditsOf]) rfl (by simp)
      | some r =>
        obtain ⟨ops, errs, h, hl, hk⟩ := foldl_callback_nf c.after (cleanUp c.max false (put st.fl r)).2.1
          { st with fl := (cleanUp c.max false (put st.fl r)).1, pushed := st.pushed ++ [r],
                    forced := st.forced || (cleanUp c.max false (put st.fl r)).2.2 }
        exact nf ops errs (by simpa [stepIn, hp, reasm, evict, push] using h) hl hk
    · exact same (by simp [stepIn, hp]) (by simp [reasm, hp]) rfl
  | login l =>
    exact nf [.remoteLogin l] [] (by simp [stepIn, reasm, idle, evict, absorb, auditsOf, Tr.step]) rfl (by simp)
  | tick t =>
    exact nf [.cleanSessions t, .cleanLogins t] [] (by simp [stepIn, reasm, idle, evict, absorb, auditsOf]) rfl (by simp)
  | expire =>
    obtain ⟨ops, errs, h, hl, hk⟩ := foldl_callback_nf c.after (cleanUp c.max true st.fl).2.1
      { st with fl := (cleanUp c.max true st.fl).1, forced := st.forced || (cleanUp c.max true st.fl).2.2 }
    exact nf ops errs (by simpa [stepIn, reasm, evict] using h) hl hk
  | poll =>
    rcases Option.eq_none_or_eq_some st.parserErr with hp | ⟨e, hp⟩
    · rcases Option.eq_none_or_eq_some st.slot with hs | ⟨e, hs⟩
      · exact same (by simp [stepIn, hp, hs]) rfl rfl
      · -- the exception: the main loop empties the slot, and returns what was in it
        exact ⟨[], [], none, by simp [stepIn, hp, hs, reasm, idle, evict, absorb, auditsOf], rfl, by simp,
          by simp [stepIn, hp, hs]⟩
    · exact same (by simp [stepIn, hp]) rfl rfl
  | _ => exact same rfl rfl rfl

theorem close_nf (c : Cfg) (st : St) : ∃ ops errs,
    close c st = absorb (evict st ⟨[], [], clear st.fl, false, st.parserErr⟩) ops errs ∧
    loginsOf ops = [] ∧ ∀ e ∈ errs, cbKind e := by
  obtain ⟨ops, errs, h, hl, hk⟩ := foldl_callback_nf c.after (clear st.fl) { st with fl := [] }
  exact ⟨ops, errs, by simpa [close, evict] using h, hl, hk⟩

theorem stepIn_stop {c : Cfg} {st s : St} {i : In} {e : PErr} (h : stepIn c st i = (s, some e)) :
    (∃ l x, i = .login l ∧ e = .login x) ∨ (i = .poll ∧ st.parserErr = some e ∧ s = st) ∨
    (i = .poll ∧ st.parserErr = none ∧ st.slot = some e ∧ s = { st with slot := none }) ∨
    (i = .cancel ∧ e = .ctx ∧ s = st) := by
  cases i with
  | line raw p =>
    simp only [stepIn] at h
    split at h
    · cases h
    · cases p <;> cases h
  | login l =>
    simp only [stepIn, Prod.mk.injEq, Option.map_eq_some_iff] at h
    obtain ⟨_, x, _, rfl⟩ := h
    exact Or.inl ⟨l, x, rfl, rfl⟩
  | poll =>
    simp only [stepIn] at h
    split at h <;> cases h
    · rename_i hp
      exact Or.inr (Or.inl ⟨rfl, hp, rfl⟩)
    · rename_i hp hs
      exact Or.inr (Or.inr (Or.inl ⟨rfl, hp, hs, rfl⟩))
  | cancel =>
    cases h
    exact Or.inr (Or.inr (Or.inr ⟨rfl, rfl, rfl⟩))
  | _ => cases h

theorem stepIn_poll_res (c : Cfg) (st : St) : (stepIn c st .poll).2 = st.parserErr.or st.slot := by
  simp only [stepIn]
  split <;> simp [*]

theorem stepIn_poll_go {c : Cfg} {st s : St} (h : stepIn c st .poll = (s, none)) :
    st.parserErr = none ∧ st.slot = none ∧ s = st := by
  simp only [stepIn] at h
  split at h <;> cases h
  rename_i hp hs
  exact ⟨hp, hs, rfl⟩

theorem runCore_cons_stop {c : Cfg} {st st' : St} {i : In} {e : PErr} (rest : List In)
    (h : stepIn c st i = (st', some e)) : runCore c st (i :: rest) = (st', some e, 1) := by
  simp [runCore, h]

theorem runCore_cons_go {c : Cfg} {st st' s : St} {i : In} {rest : List In} {r : Option PErr} {k : Nat}
    (h : stepIn c st i = (st', none)) (h2 : runCore c st' rest = (s, r, k)) :
    runCore c st (i :: rest) = (s, r, k + 1) := by
  simp [runCore, h, h2]

/-- `P s pre`: the state is `s` after the inputs `pre`. `P` need only survive the inputs that let `Read`
go on (`ErrInv` does not survive the poll that empties the slot). -/
theorem runCore_ind {c : Cfg} {P : St → List In → Prop}
    (hgo : ∀ s pre i s', P s pre → stepIn c s i = (s', none) → P s' (pre ++ [i]))
    {ins : List In} {st s : St} {r : Option PErr} {k : Nat} {done : List In}
    (h0 : P st done) (hrun : runCore c st ins = (s, r, k)) :
    (r = none ∧ k = ins.length ∧ P s (done ++ ins)) ∨
    ∃ s0 pre i post e, ins = pre ++ i :: post ∧ k = pre.length + 1 ∧ r = some e ∧
      P s0 (done ++ pre) ∧ stepIn c s0 i = (s, some e) := by
  induction ins generalizing st k done with
  | nil =>
    cases hrun
    exact Or.inl ⟨rfl, rfl, by simpa using h0⟩
  | cons i rest ih =>
    simp only [runCore] at hrun
    generalize hs : stepIn c st i = x at hrun
    obtain ⟨st', _ | e⟩ := x <;> cases hrun
    · rcases ih (hgo _ _ _ _ h0 hs) rfl with ⟨h1, h2, h3⟩ | ⟨s0, pre, j, post, e, h1, h2, h3, h4, h5⟩
      · exact Or.inl ⟨h1, by simp [h2], by simpa using h3⟩
      · exact Or.inr ⟨s0, i :: pre, j, post, e, by simp [h1], by simp [h2], h3, by simpa using h4, h5⟩
    · exact Or.inr ⟨st, [], i, rest, e, rfl, rfl, rfl, by simpa using h0, hs⟩

theorem runCore_inv {c : Cfg} {P : St → List In → Prop}
    (hstep : ∀ s pre i, P s pre → P (stepIn c s i).1 (pre ++ [i]))
    {ins : List In} {st s : St} {r : Option PErr} {k : Nat} (h0 : P st []) (hrun : runCore c st ins = (s, r, k)) :
    P s (ins.take k) := by
  rcases runCore_ind (P := P) (fun s pre i s' h hs => by simpa [hs] using hstep s pre i h) h0 hrun with
    ⟨_, rfl, h⟩ | ⟨s0, pre, i, post, e, rfl, rfl, _, h, hs⟩
  · simpa using h
  · rw [List.append_cons, List.take_left' (by simp)]
    simpa [hs] using hstep s0 pre i h

theorem runCore_len {c : Cfg} {ins : List In} {st s : St} {r : Option PErr} {k : Nat}
    (h : runCore c st ins = (s, r, k)) : k ≤ ins.length := by
  rcases runCore_ind (P := fun _ _ => True) (fun _ _ _ _ _ _ => trivial) (done := []) trivial h with
    ⟨_, rfl, _⟩ | ⟨_, pre, _, _, _, rfl, rfl, _⟩ <;> simp

theorem runCore_cons_some {c : Cfg} {st s : St} {i : In} {rest : List In} {e : PErr} {k : Nat}
    (h : runCore c st (i :: rest) = (s, some e, k)) :
    stepIn c st i = (s, some e) ∨ ∃ st' k', stepIn c st i = (st', none) ∧ runCore c st' rest = (s, some e, k') := by
  simp only [runCore] at h
  generalize hs : stepIn c st i = x at h
  obtain ⟨st', _ | e'⟩ := x <;> simp only [Prod.mk.injEq] at h
  · exact Or.inr ⟨st', _, rfl, Prod.ext h.1 (Prod.ext h.2.1 rfl)⟩
  · exact Or.inl (by rw [h.1, h.2.1])

theorem run_some {c : Cfg} {st s : St} {ins : List In} {e : PErr} {k : Nat} (h : run c st ins = (s, some e, k)) :
    ∃ s', runCore c st ins = (s', some e, k) ∧ s = close c s' := by
  unfold run at h
  split at h <;> rename_i h' <;> cases h
  exact ⟨_, h', rfl⟩

theorem runCore_append (c : Cfg) (st : AP.St) (pre post : List In) :
    runCore c st (pre ++ post) =
      match runCore c st pre with
      | (s1, some e, k) => (s1, some e, k)
      | (s1, none, k) => ((runCore c s1 post).1, (runCore c s1 post).2.1, (runCore c s1 post).2.2 + k) := by
  induction pre generalizing st with
  | nil => rfl
  | cons i rest ih =>
    simp only [List.cons_append, runCore]
    generalize stepIn c st i = x
    obtain ⟨st', _ | e⟩ := x
    · simp only [ih st']
      generalize runCore c st' rest = y
      obtain ⟨s1, _ | e, k⟩ := y <;> simp [Nat.add_assoc]
    · rfl

/-- while `Read` is running: the slot holds the first error the callback ever produced -/
structure ErrInv (st : St) : Prop where
  slot_head : st.slot = st.cbErrs.head?
  cb_kinds : ∀ e ∈ st.cbErrs, cbKind e
  parser_kind : ∀ e, st.parserErr = some e → ∃ raw, e = .parse raw

theorem errInv_init : ErrInv {} := ⟨rfl, by simp, by simp⟩

theorem errInv_absorb {st : St} {ops : List Tr.Op} {errs : List PErr} (h : ErrInv st)
    (hk : ∀ e ∈ errs, cbKind e) : ErrInv (absorb st ops errs) := by
  refine ⟨?_, ?_, h.parser_kind⟩
  · show st.slot.or errs.head? = (st.cbErrs ++ errs).head?
    rw [h.slot_head, List.head?_append]
  · intro e he
    rcases List.mem_append.mp he with he | he
    · exact h.cb_kinds e he
    · exact hk e he

theorem errInv_stepIn (c : Cfg) (st : St) (i : In) (h : ErrInv st) (hgo : (stepIn c st i).2 = none) :
    ErrInv (stepIn c st i).1 := by
  obtain ⟨ops, errs, sl, hs, -, hk, hsl⟩ := stepIn_nf c st i
  rw [hs, hsl hgo]
  refine errInv_absorb ⟨h.slot_head, h.cb_kinds, fun e he => ?_⟩ hk
  have he : st.parserErr.or ((firstRej [i]).map .parse) = some e := (reasm_parser c st i).2 ▸ he
  rcases Option.or_eq_some_iff.mp he with hp | ⟨-, hr⟩
  · exact h.parser_kind e hp
  · obtain ⟨raw, -, rfl⟩ := Option.map_eq_some_iff.mp hr
    exact ⟨raw, rfl⟩

theorem not_cbKind_login (x : Tr.Err) : ¬ cbKind (.login x) := by
  rintro (h | ⟨_, h⟩) <;> cases h
theorem not_cbKind_ctx : ¬ cbKind .ctx := by
  rintro (h | ⟨_, h⟩) <;> cases h
theorem not_cbKind_parse (raw : Str) : ¬ cbKind (.parse raw) := by
  rintro (h | ⟨_, h⟩) <;> cases h

theorem ErrInv.slot_kind {st : St} (h : ErrInv st) {e : PErr} (hs : st.slot = some e) : cbKind e :=
  h.cb_kinds e (List.mem_of_head? (by rw [← h.slot_head, hs]))

end AM.AP
