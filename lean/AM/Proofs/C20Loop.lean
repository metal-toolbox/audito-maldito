import AM.Model.DirLoop
import AM.Proofs.C20
/-! C20, the start-up phase: events that arrive while the files present at start are still being read
are not acted on, so the loop ends start-up in exactly the state `Dir.startup` describes and the
delivered lines are the expected ones — however many events arrive early. With the tempting guard
("all start-up reads launched") the live log's lines are delivered twice. -/
namespace AM.C20L
open AM.Dir AM.DirLoop

theorem spurious_ignored (files : List (Str × Str)) {st : LSt} (h : st.over = false) (k : Nat) :
    (List.replicate k LIn.spurious).foldl (DirLoop.step .namesNil files) st = st := by
  induction k with
  | zero => rfl
  | succ k ih => rw [List.replicate_succ, List.foldl_cons]; simpa [DirLoop.step, honoured, h] using ih

/-- the `w2` of `DirLoop.step`'s `.done` branch, written out again (`startup_rounds` identifies the two by `rfl`) -/
def readOne (files : List (Str × Str)) (w : World) (n : Str) : World :=
  let w1 := { w with out := w.out ++ linesOf files n }
  if n = logPrefix then { w1 with rf := { w1.rf with offset := w1.file.length - (split [] w1.file).2.length } } else w1

/-- control: one round per file (any number of early events, then the completion) -/
theorem startup_rounds (files : List (Str × Str)) (r : List Str) :
    ∀ (n : Str) (w : World) (early : List Nat), early.length = r.length + 1 →
      (early.flatMap fun k => List.replicate k LIn.spurious ++ [LIn.done]).foldl (DirLoop.step .namesNil files)
        ⟨r, some n, false, w⟩ = ⟨[], none, true, (n :: r).foldl (readOne files) w⟩ := by
  induction r with
  | nil =>
    intro n w early hlen
    obtain ⟨k, rfl⟩ := List.length_eq_one_iff.mp hlen
    simp only [List.flatMap_cons, List.flatMap_nil, List.append_nil, List.foldl_append]
    rw [spurious_ignored files rfl]
    rfl
  | cons m r ih =>
    intro n w early hlen
    obtain ⟨k, ks, rfl⟩ := List.exists_cons_of_length_eq_add_one hlen
    simp only [List.flatMap_cons, List.foldl_append]
    rw [spurious_ignored files rfl]
    exact ih m (readOne files w n) ks (by simpa using hlen)

/-- data: the offset is set when (each time) the live log is among the files -/
theorem foldl_readOne (files : List (Str × Str)) (ns : List Str) (w : World) :
    ns.foldl (readOne files) w =
      { w with out := w.out ++ ns.flatMap (linesOf files),
               rf := if logPrefix ∈ ns then { w.rf with offset := w.file.length - (split [] w.file).2.length }
                     else w.rf } := by
  induction ns generalizing w with
  | nil => simp
  | cons n ns ih =>
    rw [List.foldl_cons, ih]
    by_cases hn : n = logPrefix
    · subst hn; by_cases hm : logPrefix ∈ ns <;> simp [readOne, hm, List.append_assoc]
    · have : ¬ logPrefix = n := fun h => hn h.symm
      simp [readOne, hn, this, List.append_assoc]

theorem mem_sortNames_live (names : List Str) : logPrefix ∈ sortNames names ↔ logPrefix ∈ names := by
  rw [(AM.C20.order_sorted names).2.mem_iff, List.mem_filter]
  exact ⟨fun h => h.1, fun h => ⟨h, by decide⟩⟩

/-- start-up ends in exactly the state the atomic model `Dir.startup` describes, however many events
arrive while the files are being read -/
theorem loop_startup (files : List (Str × Str)) (early : List Nat)
    (hlen : early.length = (sortNames (files.map (·.1))).length) :
    (DirLoop.run .namesNil files (script early [])).w = Dir.startup files ∧
    (DirLoop.run .namesNil files (script early [])).over = true := by
  have key : DirLoop.run .namesNil files (script early []) = ⟨[], none, true,
      (sortNames (files.map (·.1))).foldl (readOne files) { file := (aLookup logPrefix files).getD [] }⟩ := by
    unfold DirLoop.run script DirLoop.start
    simp only [List.map_nil, List.append_nil]
    cases hs : sortNames (files.map (·.1)) with
    | nil => rw [hs] at hlen; rw [List.eq_nil_of_length_eq_zero hlen]; rfl
    | cons n r => exact startup_rounds files r n _ early (by rw [hlen, hs]; rfl)
  rw [key, foldl_readOne]
  refine ⟨?_, rfl⟩
  simp only [Dir.startup, List.nil_append, mem_sortNames_live]
  split
  · rfl
  · rename_i hno
    rw [aLookup_none_of (k := logPrefix) fun v hv => hno (List.mem_map_of_mem (f := (·.1)) hv)]
    rfl

theorem after_startup (files : List (Str × Str)) {st : LSt} (h : st.over = true) (ops : List FsOp) :
    ((ops.map LIn.event).foldl (DirLoop.step .namesNil files) st).w = ops.foldl Dir.step st.w ∧
    ((ops.map LIn.event).foldl (DirLoop.step .namesNil files) st).over = true := by
  induction ops generalizing st with
  | nil => exact ⟨rfl, h⟩
  | cons op ops ih =>
    simp only [List.map_cons, List.foldl_cons]
    have hs : DirLoop.step .namesNil files st (.event op) = { st with w := Dir.step st.w op } := by
      simp [DirLoop.step, honoured, h]
    rw [hs]
    exact ih h

/-- C20 for the loop: the lines received are the expected ones — the complete lines of the files present at
start, oldest rotation first, then every line completed in the live log, once, in order — whatever number
of events arrives while start-up is still reading -/
theorem loop_lines (files : List (Str × Str)) (early : List Nat) (ops : List FsOp)
    (hlen : early.length = (sortNames (files.map (·.1))).length) :
    (DirLoop.run .namesNil files (script early ops)).w.out = Dir.expected files ops := by
  have h0 := loop_startup files early hlen
  unfold DirLoop.run script at h0 ⊢
  simp only [List.map_nil, List.append_nil] at h0
  rw [List.foldl_append]
  have h1 := after_startup files h0.2 ops
  rw [h1.1, h0.1]
  exact AM.C20.lines files ops

/-- the guard matters: acting on events as soon as the last start-up read has been LAUNCHED delivers the live
log's lines twice when an event arrives while that read is in flight -/
theorem tempting_guard_duplicates :
    (DirLoop.run .allLaunched [(logPrefix, "a\nb\n".toList)] (script [1] [])).w.out =
      ["a".toList, "b".toList, "a".toList, "b".toList] ∧
    Dir.expected [(logPrefix, "a\nb\n".toList)] [] = ["a".toList, "b".toList] := by
  -- `mergeSort` does not evaluate: the sorted list is put in by `C20.sort_single` first
  simp only [DirLoop.run, script, DirLoop.start, Dir.expected, List.map_cons, List.map_nil, AM.C20.sort_single]
  decide +kernel

end AM.C20L
