import AM.Proofs.SshdCommon
/-! A `.*` group in front of a literal separator could only be longer if the separator occurred a second
time, further to the right. Where the rest of the line is needed in full by the items after the separator's
field, a second occurrence would lie inside `separator ++ field` (`noLater_sep`). So the field AFTER the
separator must not contain it, nor (where the separator begins and ends with a blank) the separator without
its leading blank; the field in front may contain it. -/
namespace AM.Sshd
open AM.Rx AM.Spec AM.Gen

theorem prefix_drop_trunc {l y z : Str} (j : Nat) (hlen : j + l.length ≤ y.length)
    (h : l <+: (y ++ z).drop j) : l <+: y.drop j := by
  rw [List.drop_append] at h
  exact List.prefix_of_prefix_length_le h (List.prefix_append _ _) (by simp; omega)

/-- the group in front of `l` is forced unless `l` occurs again inside `l ++ x` -/
theorem noLater_sep {c : Cls} {l : Str} (x rest : Str) {is : List Item} {e : Bool} {t : Str}
    (ht : t = l ++ (x ++ rest)) (hrest : rest.length ≤ minLen is)
    (h : ∀ j, 0 < j → ¬ l <+: (l ++ x).drop j) : NoLater c (.lit l :: is) e t := by
  subst ht
  apply noLater_lit
  intro j hj hlen _ hp
  rw [← List.append_assoc] at hp
  simp only [List.length_append] at hlen
  exact h j hj (prefix_drop_trunc j (by simp only [List.length_append]; omega) hp)

/-- the literal mismatches each of its own proper suffixes at offsets `0 < j < n` -/
def selfFree (l : Str) (n : Nat) : Bool :=
  (List.range n).all fun j => j == 0 || mismatch l (l.drop j)

/-- offsets below `n`: `selfFree`; `n ≤ j < |l|` (a suffix of `l` continued by `x` could read `l`): `hrest`;
offsets inside `x`: `hx` -/
theorem no_occ_after {l : Str} (x : Str) (n : Nat) (hself : selfFree l n = true)
    (hrest : ∀ j, n ≤ j → j < l.length → ¬ l <+: l.drop j ++ x)
    (hx : ∀ j, ¬ l <+: x.drop j) : ∀ j, 0 < j → ¬ l <+: (l ++ x).drop j := by
  intro j hj h
  by_cases hlt : j < l.length
  · rw [List.drop_append_of_le_length (by omega)] at h
    by_cases hn : j < n
    · have h1 := List.all_eq_true.mp hself j (List.mem_range.mpr hn)
      simp only [Bool.or_eq_true, beq_iff_eq] at h1
      rcases h1 with h0 | hm
      · omega
      · exact mismatch_prefixes hm h (List.prefix_append _ _)
    · exact hrest j (by omega) hlt h
  · rw [List.drop_append, List.drop_eq_nil_of_le (by omega), List.nil_append] at h
    exact hx _ h

theorem no_occ_of_allIn (c : Cls) (sp : Char) (l x : Str) (hx : ∀ ch ∈ x, c.mem ch = true)
    (hs : c.mem sp = false) (hl : sp ∈ l) : ∀ j, ¬ l <+: x.drop j := by
  intro j h
  have h1 : sp ∈ x.drop j := h.subset hl
  have h2 := hx sp (List.mem_of_mem_drop h1)
  rw [hs] at h2; cases h2

theorem no_occ_after_free {l x : Str} (hself : selfFree l l.length = true) (hx : ∀ j, ¬ l <+: x.drop j) :
    ∀ j, 0 < j → ¬ l <+: (l ++ x).drop j :=
  no_occ_after x l.length hself (fun j h1 h2 => absurd h2 (by omega)) hx

/-- ` w` with `w` ending in a blank (` maps to `, …): its only overlap with itself is its last blank, and a
field that continued that blank to a second separator would start with `w` -/
theorem no_occ_after_blank {l : Str} (w x : Str) (hl : l = ' ' :: w) (hlast : l.drop w.length = [' '])
    (hself : selfFree l w.length = true) (h1 : ∀ j, ¬ l <+: x.drop j) (h2 : ¬ w <+: x) :
    ∀ j, 0 < j → ¬ l <+: (l ++ x).drop j := by
  apply no_occ_after x w.length hself _ h1
  intro j hj hlt hp
  have : j = w.length := by rw [hl] at hlt; simp only [List.length_cons] at hlt; omega
  rw [this, hlast, hl] at hp
  exact h2 (List.cons_prefix_cons.mp hp).2


/-- both expressions are `^User (.*) not allowed because shell (.*)<tail>$`; nothing is asked of `tail`:
the shell is bounded by the length of the line -/
theorem userShell_forced {tail u sh : Str}
    (hd : (noNL u && noNL sh && lacks u " not allowed because shell " &&
      lacks sh " not allowed because shell " && lacks sh "not allowed because shell ") = true) :
    Forced [.lit "User ".toList, .rep clsAny 0 true, .lit " not allowed because shell ".toList,
      .rep clsAny 0 true, .lit tail] true [u, sh] [] := by
  simp only [Bool.and_eq_true, and_assoc] at hd
  obtain ⟨hu, hsh, _, hl1, hl2⟩ := hd
  apply Forced.lit
  apply Forced.rep (noNL_any hu) (Nat.zero_le _)
  · refine noLater_sep sh tail (by simp [build]) (by simp [minLen]) ?_
    exact no_occ_after_blank "not allowed because shell ".toList sh (by simp) (by decide) (by decide)
      (lacks_spec hl1) (lacks_spec hl2 0)
  apply Forced.lit
  apply Forced.rep (noNL_any hsh) (Nat.zero_le _)
  · exact noLater_tight (by simp [build, minLen])
  apply Forced.lit
  exact Forced.nil fun _ => rfl

/-- `^<head>([a-zA-Z0-9_-]+) (.*)<sep>(.*)$`: of the separator only three finite facts are asked -/
theorem revoked_forced {head : Str} {sep w : String} {kt fp f : Str}
    (hsep : sep.toList = ' ' :: w.toList) (hlast : sep.toList.drop w.toList.length = [' '])
    (hself : selfFree sep.toList w.toList.length = true)
    (hd : (keyTypeLike kt && noSpace fp && noNL f && lacks f sep && lacks f w) = true) :
    Forced [.lit head, .rep clsKeyType 1 true, .lit " ".toList, .rep clsAny 0 true, .lit sep.toList,
      .rep clsAny 0 true] true [kt, fp, f] [] := by
  simp only [Bool.and_eq_true, and_assoc] at hd
  obtain ⟨hk, hfp, hf, h1, h2⟩ := hd
  obtain ⟨hk0, hk⟩ := keyTypeLike_spec hk
  apply Forced.lit
  apply Forced.rep hk (List.length_pos_iff.mpr hk0) (noLater_stop (by decide))
  apply Forced.lit
  apply Forced.rep (allIn_mono (noSpace_spec hfp) nonspace_any) (Nat.zero_le _)
  · exact noLater_sep f [] (by simp [build]) (Nat.zero_le _)
      (no_occ_after_blank w.toList f hsep hlast hself (lacks_spec h1) (lacks_spec h2 0))
  apply Forced.lit
  apply Forced.rep (noNL_any hf) (Nat.zero_le _) noLater_nil
  exact Forced.nil fun _ => rfl

theorem badOwner_forced {u f : Str}
    (hd : (noNL u && noNL f && lacks u ": bad owner or modes for " &&
      lacks f ": bad owner or modes for ") = true) :
    Forced badOwnerOrModesForHostFileRE.items true [u, f] [] := by
  simp only [Bool.and_eq_true, and_assoc] at hd
  obtain ⟨hu, hf, _, hlf⟩ := hd
  apply Forced.lit
  apply Forced.rep (noNL_any hu) (Nat.zero_le _)
  · exact noLater_sep f [] (by simp [build]) (Nat.zero_le _) (no_occ_after_free (by decide) (lacks_spec hlf))
  apply Forced.lit
  apply Forced.rep (noNL_any hf) (Nat.zero_le _) noLater_nil
  exact Forced.nil fun _ => rfl

/-- the address has no blank, the separator `" is set up for ` has: no condition on the address is needed -/
theorem nastyPTR_forced {d a : Str} (hd : (noNL d && noSpace a && lacks d "\" is set up for ") = true) :
    Forced nastyPTRRecordRE.items nastyPTRRecordRE.anchE [d, a] [] := by
  simp only [Bool.and_eq_true, and_assoc] at hd
  obtain ⟨hd1, ha, _⟩ := hd
  have ha := noSpace_spec ha
  apply Forced.lit
  apply Forced.rep (noNL_any hd1) (Nat.zero_le _)
  · refine noLater_sep a ", ignoring".toList (by simp [build]) (by simp [minLen]) ?_
    exact no_occ_after_free (by decide) (no_occ_of_allIn clsNonSpace ' ' _ a ha (by decide) (by simp))
  apply Forced.lit
  apply Forced.rep (allIn_mono ha nonspace_any) (Nat.zero_le _)
  · exact noLater_tight (by simp [build, minLen])
  apply Forced.lit
  exact Forced.nil fun _ => rfl

theorem doesNotMapBack_forced {a d : Str}
    (hd : (noSpace a && noNL d && lacks d " maps to " && lacks d ", but this does not" &&
      lacks d "maps to ") = true) :
    Forced doesNotMapBackToAddrRE.items doesNotMapBackToAddrRE.anchE [a, d, ['.']] [] := by
  simp only [Bool.and_eq_true, and_assoc] at hd
  obtain ⟨ha, hd1, hl1, _, hl2⟩ := hd
  apply Forced.lit
  apply Forced.rep (allIn_mono (noSpace_spec ha) nonspace_any) (Nat.zero_le _)
  · refine noLater_sep d (", but this does not map back to the address".toList ++ ['.']) (by simp [build])
      (by simp [minLen]) ?_
    exact no_occ_after_blank "maps to ".toList d (by simp) (by decide) (by decide)
      (lacks_spec hl1) (lacks_spec hl2 0)
  apply Forced.lit
  apply Forced.rep (noNL_any hd1) (Nat.zero_le _)
  · exact noLater_tight (by simp [build, minLen])
  apply Forced.lit
  -- the final `.` of the expression is any byte; the form prints a full stop
  apply Forced.one (b := '.') (by decide) (by decide)
  exact Forced.nil fun _ => rfl

end AM.Sshd
