import AM.Proofs.Rows
/-! The forms whose fields are told apart by blanks. The user name is ANY text without a newline (blanks,
` from `, ` port `, embedded well-formed fragments included); the fields after it contain no blank, so after
each group the blanks left in the line are exactly those of the literals to come, and no group can be longer. -/
namespace AM.Sshd
open AM.Rx AM.Spec AM.Gen

/-- the five `^User (.*) from (.*)<tail>$`: nothing is asked of `tail`, so no form looks inside its literal -/
theorem userFrom_forced {tail u a : Str} (hd : (noNL u && noSpace a) = true) :
    Forced [.lit "User ".toList, .rep clsAny 0 true, .lit " from ".toList, .rep clsAny 0 true,
      .lit tail] true [u, a] [] := by
  simp only [Bool.and_eq_true] at hd
  obtain ⟨hu, ha⟩ := hd
  have ha := noSpace_spec ha
  have ca := count_zero_of_allIn ' ' a ha mem_sp_nonspace
  apply Forced.lit
  apply Forced.rep (noNL_any hu) (Nat.zero_le _)
  · exact noLater_count ' ' rfl (by simp [build, litCount, List.count_append, ca]; omega)
  apply Forced.lit
  apply Forced.rep (allIn_mono ha nonspace_any) (Nat.zero_le _)
  · exact noLater_tight (by simp [build, minLen])
  apply Forced.lit
  exact Forced.nil fun _ => rfl

/-- `<head>(.*) from (.*) port (G) ssh[[:alnum:]]+`, `G` = `\d+` or `.*`, with or without `$`: neither the
head literal nor the end anchor matters -/
theorem fromPort_forced {head : Str} {g : Cls} {mn : Nat} {e : Bool} (u a p v : Str)
    (hd : (noNL u && noSpace a && digits p && alnums v) = true)
    (hg : ∀ ch, clsDigit.mem ch = true → g.mem ch = true) (hmn : mn ≤ 1) :
    Forced [.lit head, .rep clsAny 0 true, .lit " from ".toList, .rep clsAny 0 true, .lit " port ".toList,
      .rep g mn true, .lit " ssh".toList, .rep clsAlnum 1 false] e [u, a, p, v] [] := by
  simp only [Bool.and_eq_true, and_assoc] at hd
  obtain ⟨hu, ha, hp, hv⟩ := hd
  have ha := noSpace_spec ha
  obtain ⟨hp0, hp⟩ := digits_spec hp
  obtain ⟨hv0, hv⟩ := alnums_spec hv
  have ca := count_zero_of_allIn ' ' a ha mem_sp_nonspace
  have cp := count_zero_of_allIn ' ' p hp mem_sp_digit
  have cv := count_zero_of_allIn ' ' v hv mem_sp_alnum
  have hp1 := List.length_pos_iff.mpr hp0
  apply Forced.lit
  -- after each of the first three groups the line has as many blanks left as the literals to come
  apply Forced.rep (noNL_any hu) (Nat.zero_le _)
  · exact noLater_count ' ' rfl (by simp [build, litCount, List.count_append, cp, cv, ca])
  apply Forced.lit
  apply Forced.rep (allIn_mono ha nonspace_any) (Nat.zero_le _)
  · exact noLater_count ' ' rfl (by simp [build, litCount, List.count_append, cp, cv])
  apply Forced.lit
  apply Forced.rep (allIn_mono hp hg) (by omega)
  · exact noLater_count ' ' rfl (by simp [build, litCount, cv])
  apply Forced.lit
  apply Forced.rep hv (List.length_pos_iff.mpr hv0) noLater_nil
  exact Forced.nil fun _ => rfl

theorem acceptedPassword_built (cfg : Cfg) (pid : Str) (ok : Bool) (h : Handoff) {n : Int}
    (hn : atoi pid = some n) {ps : List Str} {tr : Str}
    (hF : Forced passwordLoginRE.items passwordLoginRE.anchE ps tr) :
    acceptedPassword cfg pid (build passwordLoginRE.items ps ++ tr) ok h =
      writeAndSend [] (loginEv cfg "succeeded" (grp passwordLoginRE (capsOf passwordLoginRE.items ps) "Source")
        [("port", grp passwordLoginRE (capsOf passwordLoginRE.items ps) "Port")]
        (subj3 (grp passwordLoginRE (capsOf passwordLoginRE.items ps) "Username") pid)) ok h n unknown := by
  simp only [acceptedPassword, hn, find_of_forced hF]

theorem acceptedPassword_process (cfg : Cfg) (pid : Str) {u a p v : Str} (ok : Bool) (h : Handoff)
    (hd : (noNL u && noSpace a && digits p && alnums v) = true) (hpid : ∃ n, atoi pid = some n) :
    ∀ line, lineOf .acceptedPassword [u, a, p, v] = some line →
      some (process cfg pid line ok h) = expectedOut cfg pid .acceptedPassword [u, a, p, v] ok h := by
  obtain ⟨n, hn⟩ := hpid
  have hF : Forced passwordLoginRE.items passwordLoginRE.anchE [u, a, p, v] [] :=
    fromPort_forced u a p v hd (fun _ h => h) (Nat.le_refl _)
  have hp := process_row cfg pid ok h (.main 1 rfl rfl) (pfx_holds_built passwordLoginRE.items [u, a, p, v] []
    (by simp [startsWith, passwordLoginRE]))
  rw [acceptedPassword_built cfg pid ok h hn hF, writeAndSend_pre] at hp
  exact form_of_process (by rw [← buildL_eq]; rfl) hp (expectedOut_accepted ok h rfl rfl hn)

theorem rootLoginRefused_forced {a p : Str} (hd : (noSpace a && digits p) = true) :
    Forced rootLoginRefusedRE.items rootLoginRefusedRE.anchE [a, p] [] := by
  simp only [Bool.and_eq_true] at hd
  obtain ⟨ha, hp⟩ := hd
  have hp := (digits_spec hp).2
  have cp := count_zero_of_allIn ' ' p hp mem_sp_digit
  apply Forced.lit
  apply Forced.rep (allIn_mono (noSpace_spec ha) nonspace_any) (Nat.zero_le _)
  · exact noLater_count ' ' rfl (by simp [build, litCount, cp])
  apply Forced.lit
  apply Forced.rep (allIn_mono hp digit_any) (Nat.zero_le _) noLater_nil
  exact Forced.nil fun _ => rfl

/-- the address is closed by `]`, which occurs once more in the line and once in the literals to come -/
theorem reverseMapping_forced {d a : Str}
    (hd : (noNL d && noSpace a && lacks a "]" && lacks d " [") = true) :
    Forced reverseMappingCheckFailedRE.items reverseMappingCheckFailedRE.anchE [d, a, ['.']] [] := by
  simp only [Bool.and_eq_true, and_assoc] at hd
  obtain ⟨hd1, ha, _, _⟩ := hd
  have ha := noSpace_spec ha
  have ca := count_zero_of_allIn ' ' a ha mem_sp_nonspace
  apply Forced.lit
  apply Forced.rep (noNL_any hd1) (Nat.zero_le _)
  · exact noLater_count ' ' rfl (by simp [build, litCount, List.count_append, ca])
  apply Forced.lit
  apply Forced.rep (allIn_mono ha nonspace_any) (Nat.zero_le _)
  · exact noLater_count ']' rfl (by decide)
  apply Forced.lit
  -- the final `.` of the expression is any byte; the form prints a full stop
  apply Forced.one (b := '.') (by decide) (by decide)
  exact Forced.nil fun _ => rfl

theorem invalidUser_forced (u a p : Str) (hu : noNL u = true) (ha : noSpace a = true) (ha0 : a ≠ [])
    (hp : digits p = true) :
    Forced invalidUserRE.items invalidUserRE.anchE [u, a, p] [] := by
  have ha := noSpace_spec ha
  obtain ⟨hp0, hp⟩ := digits_spec hp
  have ca := count_zero_of_allIn ' ' a ha mem_sp_nonspace
  have cp := count_zero_of_allIn ' ' p hp mem_sp_digit
  apply Forced.lit
  apply Forced.rep (noNL_any hu) (Nat.zero_le _)
  · exact noLater_count ' ' rfl (by simp [build, litCount, List.count_append, cp, ca])
  apply Forced.lit
  apply Forced.rep ha (List.length_pos_iff.mpr ha0) (noLater_stop (by decide))
  apply Forced.lit
  apply Forced.rep hp (List.length_pos_iff.mpr hp0) noLater_nil
  exact Forced.nil nofun

/-- `processInvalidUserEntry` is not a `simple` function: it counts, and takes its groups without a guard -/
theorem invalidUser_line (cfg : Cfg) (pid u a p : Str) (ok : Bool) (h : Handoff) (hu : noNL u = true)
    (ha : noSpace a = true) (ha0 : a ≠ []) (hp : digits p = true) :
    process cfg pid (buildL invalidUserRE.items [u, a, p]) ok h =
      ⟨[.inc "unknown" "failure", .write (loginEv cfg "failed" a [("port", p)] (subj3 u pid)) ok],
        if ok then .nil else .err⟩ := by
  have hF := invalidUser_forced u a p hu ha ha0 hp
  rw [buildL_eq, process_row cfg pid ok h (.main 3 rfl rfl) (pfx_holds_built invalidUserRE.items [u, a, p] []
      (by simp [startsWith, invalidUserRE])),
    invalidUser_matched cfg pid ok h (find_of_forced hF)]
  rfl

end AM.Sshd
