import AM.Proofs.Rows
/-! `loginRE` (`processAcceptPublicKeyEntry`) is `Accepted publickey for (.*) from (.*) port (.*)
ssh[[:alnum:]]+: ([\w -]+):(\S+)`. Blank counting does not force its `.*` groups: the `Alg` group holds a
blank of its own, and in the certificate form more text follows the match. They are forced by `Rx.NoSuf`;
`R1`, `R3`, `R5` are the items that follow the user name (from ` from ` on), the address (from ` port ` on)
and the port (from ` ssh` on). -/
namespace AM.Sshd
open AM.Rx AM.Spec AM.Gen

theorem suffix_eq_drop {x' x : Str} (h : x' <:+ x) : ∃ j, x' = x.drop j := by
  obtain ⟨pre, rfl⟩ := h
  exact ⟨pre.length, by simp⟩

def R5 : List Item := [.lit [' ', 's', 's', 'h'], .rep clsAlnum 1 false, .lit [':', ' '],
  .rep clsWordSpDash 1 true, .lit [':'], .rep clsNonSpace 1 true]
def R3 : List Item := .lit [' ', 'p', 'o', 'r', 't', ' '] :: .rep clsAny 0 true :: R5
def R1 : List Item := .lit [' ', 'f', 'r', 'o', 'm', ' '] :: .rep clsAny 0 true :: R3

theorem R1_eq : R1 = loginRE.items.drop 2 := by
  simp [R1, R3, R5, loginRE]

theorem parse_R5_inv {e : Bool} {s : Str} {caps r} (h : Parse R5 e s caps r) :
    ∃ x y w, s = ' ' :: 's' :: 's' :: 'h' :: (x ++ ':' :: ' ' :: (y ++ ':' :: w)) ∧
      (∀ ch ∈ x, clsAlnum.mem ch = true) ∧ (∀ ch ∈ y, clsWordSpDash.mem ch = true) ∧ 1 ≤ y.length := by
  obtain ⟨s1, rfl, h1⟩ := parse_lit_inv h
  obtain ⟨x, s2, _, rfl, hx, _, h2⟩ := parse_rep_inv h1
  obtain ⟨s3, rfl, h3⟩ := parse_lit_inv h2
  obtain ⟨y, s4, _, rfl, hy, hy1, h4⟩ := parse_rep_inv h3
  obtain ⟨s5, rfl, h5⟩ := parse_lit_inv h4
  exact ⟨x, y, s5, by simp, hx, hy, hy1⟩

theorem ssh_alnum_keytype {x : Str} (hx : ∀ ch ∈ x, clsAlnum.mem ch = true) :
    ∀ ch ∈ 's' :: 's' :: 'h' :: x, clsKeyType.mem ch = true := by
  intro ch hch
  simp only [List.mem_cons] at hch
  rcases hch with rfl | rfl | rfl | hch
  · decide
  · decide
  · decide
  · exact alnum_keytype ch (hx ch hch)

/-- ` ssh<alnum>+` is a run of key-type bytes that ends at `:` -/
theorem noSuf_R5_keytype {e : Bool} (x : Str) (d : Char) {t : Str} (hx : ∀ ch ∈ x, clsKeyType.mem ch = true)
    (hd : clsKeyType.mem d = false) (hne : d ≠ ':') (h : NoSuf R5 e (x ++ d :: t)) :
    NoSuf R5 e (' ' :: (x ++ d :: t)) :=
  noSuf_cons ' ' h fun _ _ hp => by
    obtain ⟨y, _, _, heq, hy, _, _⟩ := parse_R5_inv hp
    simp only [List.cons.injEq, true_and] at heq
    exact hne (span_unique clsKeyType x ('s' :: 's' :: 'h' :: y) d ':' _ _ hx (ssh_alnum_keytype hy) hd
      (by decide) (by simpa using heq)).2.1

theorem noSuf_R5_login (e : Bool) (v kt h sum tr : Str)
    (hv : ∀ ch ∈ v, clsAlnum.mem ch = true) (hkt : ∀ ch ∈ kt, clsKeyType.mem ch = true)
    (hh : ∀ ch ∈ h, clsKeyType.mem ch = true) (hsum : ∀ ch ∈ sum, clsNonSpace.mem ch = true)
    (hs0 : sum ≠ []) (htr : NoSuf R5 e tr) :
    NoSuf R5 e ('s' :: 's' :: 'h' :: (v ++ ':' :: ' ' :: (kt ++ ' ' :: (h ++ ':' :: (sum ++ tr))))) := by
  apply noSuf_run ['s', 's', 'h'] (by decide)
  apply noSuf_field clsAlnum (by decide) v hv
  apply noSuf_cons_ne ':' (by decide)
  apply noSuf_R5_keytype kt ' ' hkt (by decide) (by decide)
  apply noSuf_field clsKeyType (by decide) kt hkt
  apply noSuf_cons ' '
  · apply noSuf_field clsKeyType (by decide) h hh
    apply noSuf_cons_ne ':' (by decide)
    exact noSuf_field clsNonSpace (by decide) sum hsum htr
  · -- ` h:sum` read as ` ssh<alnum>+: …`: the sum would begin with the blank after `:`
    intro caps r hp
    obtain ⟨x, y, w, heq, hx, _, _⟩ := parse_R5_inv hp
    simp only [List.cons.injEq, true_and] at heq
    obtain ⟨_, _, h3⟩ := span_unique clsKeyType h ('s' :: 's' :: 'h' :: x) ':' ':' _ _ hh
      (ssh_alnum_keytype hx) (by decide) (by decide) (by simpa using heq)
    cases sum with
    | nil => exact hs0 rfl
    | cons c sum =>
      simp only [List.cons_append, List.cons.injEq] at h3
      have := hsum c List.mem_cons_self
      rw [h3.1] at this
      revert this; decide

theorem noSuf_R3_login (e : Bool) (p rest : Str) (hp : ∀ ch ∈ p, clsDigit.mem ch = true)
    (h5 : NoSuf R5 e ('s' :: rest)) :
    NoSuf R3 e ('p' :: 'o' :: 'r' :: 't' :: ' ' :: (p ++ ' ' :: 's' :: rest)) := by
  have h3 : NoSuf R3 e ('s' :: rest) := noSuf_skip h5
  unfold R3 at h3 ⊢
  apply noSuf_run ['p', 'o', 'r', 't'] (by decide)
  apply noSuf_blank ' ' clsDigit p ' ' (by decide) hp (by decide)
  apply noSuf_field clsDigit (by decide) p hp
  exact noSuf_blank_ne ' ' 's' (by decide) h3

theorem noSuf_R1_login (e : Bool) (a rest : Str) (ha : ∀ ch ∈ a, clsNonSpace.mem ch = true)
    (h3 : NoSuf R3 e ('p' :: rest)) :
    NoSuf R1 e ('f' :: 'r' :: 'o' :: 'm' :: ' ' :: (a ++ ' ' :: 'p' :: rest)) := by
  have h1 : NoSuf R1 e ('p' :: rest) := noSuf_skip h3
  unfold R1 at h1 ⊢
  apply noSuf_run ['f', 'r', 'o', 'm'] (by decide)
  apply noSuf_cons ' '
  · apply noSuf_field clsNonSpace (by decide) a ha
    exact noSuf_blank_ne ' ' 'p' (by decide) h1
  · intro caps r hq
    obtain ⟨s1, heq, hq1⟩ := parse_lit_inv hq
    obtain ⟨x, s2, caps', rfl, _, _, hq2⟩ := parse_rep_inv hq1
    have heq' : a ++ ' ' :: ('p' :: rest) = ['f', 'r', 'o', 'm'] ++ ' ' :: (x ++ s2) := by
      simpa using heq
    obtain ⟨_, _, h3'⟩ := span_unique clsNonSpace a ['f', 'r', 'o', 'm'] ' ' ' ' _ _ ha
      (by decide) (by decide) (by decide) heq'
    exact h3 s2 ⟨x, h3'.symm⟩ _ _ hq2

theorem login_forced (u a p v kt h sum tr : Str) (hu : noNL u = true)
    (ha : ∀ ch ∈ a, clsNonSpace.mem ch = true) (hp : ∀ ch ∈ p, clsDigit.mem ch = true)
    (hv : ∀ ch ∈ v, clsAlnum.mem ch = true) (hv0 : v ≠ [])
    (hkt : ∀ ch ∈ kt, clsKeyType.mem ch = true) (hh : ∀ ch ∈ h, clsKeyType.mem ch = true)
    (hsum : ∀ ch ∈ sum, clsNonSpace.mem ch = true) (hs0 : sum ≠ [])
    (htr : NoSuf R5 false tr) (hb : tr = [] ∨ ∃ t', tr = ' ' :: t') :
    Forced loginRE.items false [u, a, p, v, kt ++ ' ' :: h, sum] tr := by
  have h5 := noSuf_R5_login false v kt h sum tr hv hkt hh hsum hs0 htr
  have h3 := noSuf_R3_login false p _ hp h5
  have h1 := noSuf_R1_login false a _ ha h3
  have halg : ∀ ch ∈ kt ++ ' ' :: h, clsWordSpDash.mem ch = true := by
    intro ch hch
    rcases List.mem_append.mp hch with hc | hc
    · exact keytype_wordSpDash ch (hkt ch hc)
    · rcases List.mem_cons.mp hc with rfl | hc
      · decide
      · exact keytype_wordSpDash ch (hh ch hc)
  apply Forced.lit
  -- user, address, port (`.*` each): nothing after the blank that follows can be read as the items to come
  apply Forced.rep (noNL_any hu) (Nat.zero_le _)
  · exact noLater_of_noSuf ' ' (by simp [build]) h1
  apply Forced.lit
  apply Forced.rep (allIn_mono ha nonspace_any) (Nat.zero_le _)
  · exact noLater_of_noSuf ' ' (by simp [build]) h3
  apply Forced.lit
  apply Forced.rep (allIn_mono hp digit_any) (Nat.zero_le _)
  · exact noLater_of_noSuf ' ' (by simp [build]) h5
  apply Forced.lit
  apply Forced.rep hv (List.length_pos_iff.mpr hv0) (noLater_stop (by decide))
  apply Forced.lit
  apply Forced.rep halg (by simp; omega) (noLater_stop (by decide))
  apply Forced.lit
  apply Forced.rep hsum (List.length_pos_iff.mpr hs0)
  · rcases hb with rfl | ⟨t', rfl⟩
    · exact noLater_nil
    · exact noLater_stop (by decide)
  exact Forced.nil nofun

theorem loginRE_starts : startsWith "Accepted publickey".toList loginRE.items = true := by
  simp [startsWith, loginRE]

theorem loginRE_capsOf (u a p v alg sum : Str) :
    capsOf loginRE.items [u, a, p, v, alg, sum] = [u, a, p, alg, sum] := by
  simp [loginRE, capsOf]

theorem certIDRE_capsOf (k n sp ca : Str) :
    capsOf certIDRE.items [k, n, sp, ca] = [k, n, ca] := by
  simp [certIDRE, capsOf]

end AM.Sshd
