import AM.Proofs.Rows
import AM.Proofs.Forms.LoginRE
/-! The two forms of `processAcceptPublicKeyEntry`, both through `login_forced`. Plain key: the line ends
with the match. Certificate: ` ID <keyid> (serial <n>) CA <catype> <cafp>` follows, so NO later part of the
line may read as ` ssh<alnum>+: <alg>:<sum>` (`noSuf_R5_certTail`); then `certIDRE` is matched on the text
after the first match. -/
namespace AM.Sshd
open AM.Rx AM.Spec AM.Gen

theorem acceptedKey_forced (u a p v kt h sum : Str)
    (hd : (noNL u && noSpace a && digits p && alnums v && keyTypeLike kt && keyTypeLike h &&
      noSpace sum && !sum.isEmpty) = true) :
    Forced loginRE.items loginRE.anchE [u, a, p, v, kt ++ s " " ++ h, sum] [] := by
  simp only [Bool.and_eq_true, and_assoc, Bool.not_eq_true', List.isEmpty_eq_false_iff] at hd
  obtain ⟨hu, ha, hp, hv, hkt, hh, hsum, hs0⟩ := hd
  obtain ⟨hv0, hv⟩ := alnums_spec hv
  have := login_forced u a p v kt h sum [] hu (noSpace_spec ha) (digits_spec hp).2 hv hv0
    (keyTypeLike_spec hkt).2 (keyTypeLike_spec hh).2 (noSpace_spec hsum) hs0 (noSuf_nil _ _ _ _) (Or.inl rfl)
  simpa [Spec.s, loginRE] using this

theorem acceptPublicKey_built_key (cfg : Cfg) (pid : Str) (ok : Bool) (hh : Handoff) {n : Int}
    (hn : atoi pid = some n) {u a p v alg sum : Str}
    (hF : Forced loginRE.items loginRE.anchE [u, a, p, v, alg, sum] []) :
    acceptPublicKey cfg pid (build loginRE.items [u, a, p, v, alg, sum] ++ []) ok hh =
      writeAndSend [.inc "ssh-key" "success"]
        (loginEv cfg "succeeded" a [("port", p)] [("loggedAs", u), ("pid", pid), ("userID", unknown)]
          [("Alg", jsonCoerce alg), ("SSHKeySum", jsonCoerce sum)]) ok hh n unknown := by
  apply acceptPublicKey_key cfg pid ok hh (o := 0) _ hn
  rw [find_of_forced hF, loginRE_capsOf]
  simp [loginRE]

theorem acceptedKey_process (cfg : Cfg) (pid : Str) {u a p v kt h sum : Str} (ok : Bool) (hh : Handoff)
    (hd : inDomain .acceptedKey [u, a, p, v, kt, h, sum] = true)
    (hpid : ∃ n, atoi pid = some n) :
    ∀ line, lineOf .acceptedKey [u, a, p, v, kt, h, sum] = some line →
      some (process cfg pid line ok hh) =
        expectedOut cfg pid .acceptedKey [u, a, p, v, kt, h, sum] ok hh := by
  obtain ⟨n, hn⟩ := hpid
  have hF := acceptedKey_forced u a p v kt h sum hd
  have hp := process_row cfg pid ok hh (.main 0 rfl rfl)
    (pfx_holds_built loginRE.items [u, a, p, v, kt ++ s " " ++ h, sum] [] loginRE_starts)
  rw [acceptPublicKey_built_key cfg pid ok hh hn hF, writeAndSend_pre] at hp
  have hl : lineOf .acceptedKey [u, a, p, v, kt, h, sum] =
      some (buildL loginRE.items [u, a, p, v, kt ++ s " " ++ h, sum]) := by
    show some (_ ++ kt ++ s " " ++ h ++ _ ++ _) = _
    rw [List.append_assoc _ kt (s " "), List.append_assoc _ (kt ++ s " ") h]
    rfl
  exact form_of_process (buildL_eq _ _ ▸ hl) hp (expectedOut_accepted ok hh rfl rfl hn)

theorem noSuf_R5_certTail (e : Bool) (k n ct cf : Str)
    (hk1 : lacks k " ssh" = true) (hk2 : lacks k ": " = true)
    (hn : ∀ ch ∈ n, clsDigit.mem ch = true) (hct : ∀ ch ∈ ct, clsKeyType.mem ch = true)
    (hcf : ∀ ch ∈ cf, clsNonSpace.mem ch = true) :
    NoSuf R5 e (' ' :: 'I' :: 'D' :: ' ' :: (k ++ ' ' :: '(' :: 's' :: 'e' :: 'r' :: 'i' :: 'a' :: 'l' :: ' ' ::
      (n ++ ')' :: ' ' :: 'C' :: 'A' :: ' ' :: (ct ++ ' ' :: cf)))) := by
  have hcf' : NoSuf R5 e cf := by
    have := noSuf_field clsNonSpace (c := ' ') (by decide) cf hcf (noSuf_nil ' ' ['s', 's', 'h'] R5.tail e)
    rw [List.append_nil] at this
    exact this
  have hl1 := lacks_spec hk1
  have hl2 := lacks_spec hk2
  simp only [String.reduceToList] at hl1 hl2
  apply noSuf_blank_ne ' ' 'I' (by decide)
  apply noSuf_run ['I', 'D'] (by decide)
  apply noSuf_cons ' '
  · apply noSuf_any k
    · apply noSuf_blank_ne ' ' '(' (by decide)
      apply noSuf_run ['(', 's', 'e', 'r', 'i', 'a', 'l'] (by decide)
      apply noSuf_blank ' ' clsDigit n ')' (by decide) hn (by decide)
      apply noSuf_field clsDigit (by decide) n hn
      apply noSuf_cons_ne ')' (by decide)
      apply noSuf_blank_ne ' ' 'C' (by decide)
      apply noSuf_run ['C', 'A'] (by decide)
      apply noSuf_R5_keytype ct ' ' hct (by decide) (by decide)
      apply noSuf_field clsKeyType (by decide) ct hct
      apply noSuf_cons ' ' hcf'
      -- ` cf` read as ` ssh<alnum>+: …` would have a blank inside `cf`
      intro caps r hp
      obtain ⟨x, y, w, heq, _, _, _⟩ := parse_R5_inv hp
      simp only [List.cons.injEq, true_and] at heq
      have : ' ' ∈ cf := by rw [heq]; simp
      have := hcf _ this
      revert this; decide
    · -- inside `k`: ` ssh` does not occur there
      intro j hj caps r hp
      have hpre := parse_lit_prefix hp
      have hl := hl1 j
      generalize k.drop j = d at hpre hl
      rcases d with _ | ⟨c1, _ | ⟨c2, _ | ⟨c3, _ | ⟨c4, d⟩⟩⟩⟩ <;> simp at hpre hl
      exact hl hpre.1 hpre.2.1 hpre.2.2.1 hpre.2.2.2
  · -- the blank before the key ID: `k` would begin `ssh<alnum>+: `, the blank after `:` lying inside `k`
    -- (it lacks `: `), or being the one that follows `k` (then `(` would belong to the `Alg` group)
    intro caps r hp
    obtain ⟨x, y, w, heq, hx, hy, hy1⟩ := parse_R5_inv hp
    simp only [List.cons.injEq, true_and] at heq
    have heq' : k ++ ' ' :: '(' :: 's' :: 'e' :: 'r' :: 'i' :: 'a' :: 'l' :: ' ' ::
        (n ++ ')' :: ' ' :: 'C' :: 'A' :: ' ' :: (ct ++ ' ' :: cf)) =
        ('s' :: 's' :: 'h' :: x) ++ ':' :: ' ' :: (y ++ ':' :: w) := by simpa using heq
    rcases List.append_eq_append_iff.mp heq' with ⟨as, h1, h2⟩ | ⟨bs, h1, h2⟩
    · cases as with
      | nil => simp at h2
      | cons c as =>
        simp only [List.cons_append, List.cons.injEq] at h2
        have hm : ' ' ∈ 's' :: 's' :: 'h' :: x := by rw [h1, ← h2.1]; simp
        have := ssh_alnum_keytype hx _ hm
        revert this; decide
    · rcases bs with _ | ⟨b1, _ | ⟨b2, bs⟩⟩
      · simp at h2
      · simp only [List.cons_append, List.nil_append, List.cons.injEq] at h2
        cases y with
        | nil => simp at hy1
        | cons c y =>
          have hc := hy c List.mem_cons_self
          simp only [List.cons_append, List.cons.injEq] at h2
          rw [h2.2.2.1] at hc
          revert hc; decide
      · simp only [List.cons_append, List.cons.injEq] at h2
        apply hl2 ('s' :: 's' :: 'h' :: x).length
        rw [h1, List.drop_left, ← h2.1, ← h2.2.1]
        simp

/-- what follows the key-ID group of `certIDRE`: ` (serial <digits>)`, white space, the rest -/
def RK : List Item := [.lit [' ', '(', 's', 'e', 'r', 'i', 'a', 'l', ' '], .rep clsDigit 1 true, .lit [')'],
  .rep clsSpace 1 false, .rep clsAny 1 true]

theorem noSuf_RK (e : Bool) (n ct cf : Str)
    (hn : ∀ ch ∈ n, clsDigit.mem ch = true) (hct : ∀ ch ∈ ct, clsKeyType.mem ch = true)
    (hcf : ∀ ch ∈ cf, clsNonSpace.mem ch = true) :
    NoSuf RK e ('(' :: 's' :: 'e' :: 'r' :: 'i' :: 'a' :: 'l' :: ' ' ::
      (n ++ ')' :: ' ' :: 'C' :: 'A' :: ' ' :: (ct ++ ' ' :: cf))) := by
  have hcf' : NoSuf RK e cf := by
    have := noSuf_field clsNonSpace (c := ' ') (by decide) cf hcf
      (noSuf_nil ' ' ['(', 's', 'e', 'r', 'i', 'a', 'l', ' '] RK.tail e)
    rw [List.append_nil] at this
    exact this
  apply noSuf_run ['(', 's', 'e', 'r', 'i', 'a', 'l'] (by decide)
  apply noSuf_blank ' ' clsDigit n ')' (by decide) hn (by decide)
  apply noSuf_field clsDigit (by decide) n hn
  apply noSuf_cons_ne ')' (by decide)
  apply noSuf_blank_ne ' ' 'C' (by decide)
  apply noSuf_run ['C', 'A'] (by decide)
  apply noSuf_blank ' ' clsKeyType ct ' ' (by decide) hct (by decide)
  apply noSuf_field clsKeyType (by decide) ct hct
  apply noSuf_cons ' ' hcf'
  intro caps r hp
  obtain ⟨t, ht⟩ := parse_lit_prefix hp
  simp only [List.cons_append, List.nil_append, List.cons.injEq, true_and] at ht
  have : ' ' ∈ cf := by rw [← ht]; simp
  have := hcf _ this
  revert this; decide

theorem certID_forced (k n ct cf : Str) (hk : noNL k = true)
    (hn : ∀ ch ∈ n, clsDigit.mem ch = true) (hn0 : n ≠ [])
    (hct : ∀ ch ∈ ct, clsKeyType.mem ch = true) (hcf : ∀ ch ∈ cf, clsNonSpace.mem ch = true) :
    Forced certIDRE.items certIDRE.anchE [k, n, [' '], 'C' :: 'A' :: ' ' :: (ct ++ ' ' :: cf)] [] := by
  have hca : ∀ ch ∈ 'C' :: 'A' :: ' ' :: (ct ++ ' ' :: cf), clsAny.mem ch = true := by
    intro ch hch
    simp only [List.mem_cons, List.mem_append] at hch
    rcases hch with rfl | rfl | rfl | hc | rfl | hc
    · decide
    · decide
    · decide
    · exact nonspace_any ch (keytype_nonspace ch (hct ch hc))
    · decide
    · exact nonspace_any ch (hcf ch hc)
  apply Forced.lit
  apply Forced.rep (noNL_any hk) (Nat.zero_le _)
  · exact noLater_of_noSuf ' ' (by simp [build]) (noSuf_RK false n ct cf hn hct hcf)
  apply Forced.lit
  apply Forced.rep hn (List.length_pos_iff.mpr hn0) (noLater_stop (by decide))
  apply Forced.lit
  -- `\s+` takes the one blank (`C` follows), the last group the rest of the text
  apply Forced.rep (x := [' ']) (by decide) (by decide) (noLater_stop (by decide))
  apply Forced.rep hca (by simp) noLater_nil
  exact Forced.nil nofun

theorem acceptedCert_forced (u a p v kt h sum k n ct cf : Str)
    (hd : (noNL u && noSpace a && digits p && alnums v && keyTypeLike kt && keyTypeLike h &&
      noSpace sum && !sum.isEmpty && noNL k && lacks k " port " && lacks k " ssh" && lacks k ": " &&
      digits n && keyTypeLike ct && noSpace cf && !cf.isEmpty) = true) :
    Forced loginRE.items loginRE.anchE [u, a, p, v, kt ++ s " " ++ h, sum]
      (s " ID " ++ k ++ s " (serial " ++ n ++ s ") CA " ++ ct ++ s " " ++ cf) ∧
    Forced certIDRE.items certIDRE.anchE [k, n, [' '], 'C' :: 'A' :: ' ' :: (ct ++ ' ' :: cf)] [] := by
  simp only [Bool.and_eq_true, and_assoc, Bool.not_eq_true', List.isEmpty_eq_false_iff] at hd
  obtain ⟨hu, ha, hp, hv, hkt, hh, hsum, hs0, hk, _, hk1, hk2, hn, hct, hcf, _⟩ := hd
  obtain ⟨hv0, hv⟩ := alnums_spec hv
  obtain ⟨hn0, hn⟩ := digits_spec hn
  have hct := (keyTypeLike_spec hct).2
  have hcf := noSpace_spec hcf
  refine ⟨?_, certID_forced k n ct cf hk hn hn0 hct hcf⟩
  have htr := noSuf_R5_certTail false k n ct cf hk1 hk2 hn hct hcf
  have := login_forced u a p v kt h sum _ hu (noSpace_spec ha) (digits_spec hp).2 hv hv0
    (keyTypeLike_spec hkt).2 (keyTypeLike_spec hh).2 (noSpace_spec hsum) hs0 htr (Or.inr ⟨_, rfl⟩)
  simpa [Spec.s, loginRE] using this

theorem acceptPublicKey_built_cert (cfg : Cfg) (pid : Str) (ok : Bool) (hh : Handoff) {m : Int}
    (hm : atoi pid = some m) {u a p v alg sum k n sp ca tr : Str}
    (hF : Forced loginRE.items loginRE.anchE [u, a, p, v, alg, sum]
      (' ' :: (build certIDRE.items [k, n, sp, ca] ++ tr)))
    (hF2 : Forced certIDRE.items certIDRE.anchE [k, n, sp, ca] tr) :
    acceptPublicKey cfg pid
        (build loginRE.items [u, a, p, v, alg, sum] ++ ' ' :: (build certIDRE.items [k, n, sp, ca] ++ tr)) ok hh =
      writeAndSend [.inc "ssh-cert" "success"]
        (loginEv cfg "succeeded" a [("port", p)] [("loggedAs", u), ("pid", pid), ("userID", k)]
          [("Alg", jsonCoerce alg), ("CA", jsonCoerce ca), ("SSHKeySum", jsonCoerce sum),
           ("Serial", jsonCoerce n)]) ok hh m k := by
  have hfind := find_of_forced hF
  have hfind2 := find_of_forced hF2
  rw [loginRE_capsOf] at hfind
  rw [certIDRE_capsOf] at hfind2
  generalize build loginRE.items [u, a, p, v, alg, sum] = B at hfind ⊢
  -- `certIDRE` is run from one past the end of the first match: `hmlen` is that end, `hdrop` the text there
  have hmlen : ((B ++ ' ' :: (build certIDRE.items [k, n, sp, ca] ++ tr)).length -
      if loginRE.anchE = true then 0 else (' ' :: (build certIDRE.items [k, n, sp, ca] ++ tr)).length) =
      B.length := by simp [loginRE]
  rw [hmlen] at hfind
  have hdrop : (B ++ ' ' :: (build certIDRE.items [k, n, sp, ca] ++ tr)).drop (B.length + 1) =
      build certIDRE.items [k, n, sp, ca] ++ tr := by rw [List.drop_length_add_append]; rfl
  rw [← hdrop] at hfind2
  exact acceptPublicKey_cert cfg pid ok hh hfind (by simp) hfind2 hm

theorem acceptedCert_process (cfg : Cfg) (pid : Str) {u a p v kt h sum k n ct cf : Str} (ok : Bool) (hh : Handoff)
    (hd : inDomain .acceptedCert [u, a, p, v, kt, h, sum, k, n, ct, cf] = true)
    (hpid : ∃ m, atoi pid = some m) :
    ∀ line, lineOf .acceptedCert [u, a, p, v, kt, h, sum, k, n, ct, cf] = some line →
      some (process cfg pid line ok hh) =
        expectedOut cfg pid .acceptedCert [u, a, p, v, kt, h, sum, k, n, ct, cf] ok hh := by
  obtain ⟨m, hm⟩ := hpid
  obtain ⟨hF, hF2⟩ := acceptedCert_forced u a p v kt h sum k n ct cf hd
  -- the tail of the spec's line with the pieces as `certID_forced` cuts them
  have htr : s " ID " ++ k ++ s " (serial " ++ n ++ s ") CA " ++ ct ++ s " " ++ cf =
      ' ' :: (build certIDRE.items [k, n, [' '], 'C' :: 'A' :: ' ' :: (ct ++ ' ' :: cf)] ++ []) := by
    simp [certIDRE, build, Spec.s]
  rw [htr] at hF
  have hp := process_row cfg pid ok hh (.main 0 rfl rfl)
    (pfx_holds_built loginRE.items [u, a, p, v, kt ++ s " " ++ h, sum]
      (' ' :: (build certIDRE.items [k, n, [' '], 'C' :: 'A' :: ' ' :: (ct ++ ' ' :: cf)] ++ [])) loginRE_starts)
  rw [acceptPublicKey_built_cert cfg pid ok hh hm hF hF2, writeAndSend_pre] at hp
  have hl : lineOf .acceptedCert [u, a, p, v, kt, h, sum, k, n, ct, cf] =
      some (build loginRE.items [u, a, p, v, kt ++ s " " ++ h, sum] ++
        ' ' :: (build certIDRE.items [k, n, [' '], 'C' :: 'A' :: ' ' :: (ct ++ ' ' :: cf)] ++ [])) := by
    rw [← htr]
    show some (_ ++ cf) = _
    simp only [build, loginRE, Spec.s, List.append_assoc, List.append_nil]
  exact form_of_process hl hp (expectedOut_accepted ok hh rfl (by show some _ = some _; simp [Spec.s]) hm)

end AM.Sshd
