import AM.Model.Syslog
import AM.Proofs.C12
/-! # C07 — a record delivered through the pipe is processed as if handed over directly

`framed_eq_direct`: for every PID token without blank, every non-empty blank padding and every
message without newline that does not start with a blank, the syslog ingester applied to the
framed record `<pid><pad><msg>\n` hands exactly `(pid, msg)` to the sshd processor — hence the
same events, metric increments and forwarded logins as the direct call, for every message form
and every field value (the sshd model itself is the one of C06/C11, over expressions regenerated
from source). `Split`/`Join`/`TrimLeft` are modelled literally; internal spacing is preserved. -/
namespace AM.C07
open AM.Syslog

theorem trimSuffixNL_append (x : Str) : trimSuffixNL (x ++ ['\n']) = x := by
  simp [trimSuffixNL]

theorem trimSuffixNL_id (x : Str) (h : x.getLast? ≠ some '\n') : trimSuffixNL x = x := by
  unfold trimSuffixNL
  split
  · rename_i h'; exact absurd h' h
  · rfl

theorem splitSp_ne_nil (x : Str) : splitSp x ≠ [] := by
  cases x with
  | nil => simp [splitSp]
  | cons c r =>
    simp only [splitSp]
    split
    · simp
    · split <;> simp

theorem joinSp_splitSp (x : Str) : joinSp (splitSp x) = x := by
  induction x with
  | nil => simp [splitSp, joinSp]
  | cons c r ih =>
    obtain ⟨a, b, hs⟩ := List.exists_cons_of_ne_nil (splitSp_ne_nil r)
    rw [hs] at ih
    simp only [splitSp, hs]
    split
    · rename_i hc
      rw [hc, joinSp, List.nil_append, ih]
      exact List.cons_ne_nil _ _
    · cases b with
      | nil => simp only [joinSp] at ih ⊢; rw [ih]
      | cons b1 b2 => simp only [joinSp, List.cons_append] at ih ⊢; rw [ih]

theorem splitSp_token (p : Str) (hp : ' ' ∉ p) (r : Str) :
    splitSp (p ++ ' ' :: r) = p :: splitSp r := by
  induction p with
  | nil => simp [splitSp]
  | cons c t ih =>
    have hc : c ≠ ' ' := by intro h; apply hp; simp [h]
    have ht : ' ' ∉ t := by intro h; apply hp; simp [h]
    simp only [List.cons_append, splitSp, hc, if_false]
    rw [ih ht]

theorem trimLeftSp_blanks (pad m : Str) (hpad : ∀ c ∈ pad, c = ' ') (hm : m.head? ≠ some ' ') :
    trimLeftSp (pad ++ m) = m := by
  induction pad with
  | nil =>
    cases m with
    | nil => simp [trimLeftSp]
    | cons c r =>
      have : c ≠ ' ' := by simpa using hm
      simp only [List.nil_append]
      unfold trimLeftSp
      split
      · rename_i heq; cases heq; exact absurd rfl this
      · rfl
  | cons c t ih =>
    have : c = ' ' := hpad c (by simp)
    subst this
    simp only [List.cons_append, trimLeftSp]
    exact ih (fun c hc => hpad c (by simp [hc]))

theorem parse_framed (pid pad msg : Str) (hpid : ' ' ∉ pid)
    (hpad0 : pad ≠ []) (hpad : ∀ c ∈ pad, c = ' ') (hmsg : msg.head? ≠ some ' ') :
    parse (pid ++ pad ++ msg ++ ['\n']) = (pid, msg) := by
  unfold parse
  rw [trimSuffixNL_append]
  cases pad with
  | nil => exact absurd rfl hpad0
  | cons c t =>
    have : c = ' ' := hpad c (by simp)
    subst this
    have hsplit : splitSp (pid ++ ' ' :: t ++ msg) = pid :: splitSp (t ++ msg) := by
      have := splitSp_token pid hpid (t ++ msg)
      simpa [List.append_assoc] using this
    obtain ⟨a, b, hs⟩ := List.exists_cons_of_ne_nil (splitSp_ne_nil (t ++ msg))
    simp only [hsplit, hs]
    rw [← hs, joinSp_splitSp, trimLeftSp_blanks t msg (fun c hc => hpad c (by simp [hc])) hmsg]

theorem framed_eq_direct (cfg : Sshd.Cfg) (pid pad msg : Str) (ok : Bool) (h : Sshd.Handoff)
    (hpid : ' ' ∉ pid) (hpad0 : pad ≠ []) (hpad : ∀ c ∈ pad, c = ' ') (hmsg : msg.head? ≠ some ' ') :
    Syslog.process cfg (pid ++ pad ++ msg ++ ['\n']) ok h = Sshd.process cfg pid msg ok h := by
  simp only [Syslog.process, parse_framed pid pad msg hpid hpad0 hpad hmsg]

theorem splitSp_noblank (x : Str) (hx : ' ' ∉ x) : splitSp x = [x] := by
  induction x with
  | nil => simp [splitSp]
  | cons c t ih =>
    have hc : c ≠ ' ' := by intro h; apply hx; simp [h]
    have ht : ' ' ∉ t := by intro h; apply hx; simp [h]
    simp only [splitSp, hc, if_false, ih ht]

/-- a record without any blank is not an sshd message: the ingester hands over the empty entry -/
theorem no_blank_empty_entry (x : Str) (hx : ' ' ∉ x) (hnl : x.getLast? ≠ some '\n') :
    parse x = ([], []) := by
  unfold parse
  rw [trimSuffixNL_id x hnl]
  simp only [splitSp_noblank x hx]

example : parse "4321  Failed password for bob from 1.2.3.4 port 22 ssh2\n".toList =
    ("4321".toList, "Failed password for bob from 1.2.3.4 port 22 ssh2".toList) := by decide +kernel

/-! With `C12.run_frames`: framed records written to the pipe in ANY pieces are processed exactly as the
(pid, message) pairs handed over directly, one by one, in order. -/

/-- a framed record: PID token, blank padding, message, newline -/
def frame (r : Str × Str × Str) : Str := r.1 ++ r.2.1 ++ r.2.2 ++ ['\n']

/-- what sshd and rsyslog produce: no blank or newline in the PID token, non-empty blank padding, a
message without newline that does not start with a blank -/
def WfRec (r : Str × Str × Str) : Prop :=
  ' ' ∉ r.1 ∧ '\n' ∉ r.1 ∧ r.2.1 ≠ [] ∧ (∀ c ∈ r.2.1, c = ' ') ∧ '\n' ∉ r.2.2 ∧ r.2.2.head? ≠ some ' '

theorem WfRec.framed {r : Str × Str × Str} (h : WfRec r) : ∃ body, frame r = body ++ ['\n'] ∧ '\n' ∉ body := by
  obtain ⟨_, h2, _, h4, h5, _⟩ := h
  refine ⟨r.1 ++ r.2.1 ++ r.2.2, rfl, fun hm => ?_⟩
  simp only [List.mem_append] at hm
  rcases hm with (hm | hm) | hm
  · exact h2 hm
  · cases h4 _ hm
  · exact h5 hm

theorem WfRec.parse {r : Str × Str × Str} (h : WfRec r) : Syslog.parse (frame r) = (r.1, r.2.2) := by
  obtain ⟨h1, _, h3, h4, _, h6⟩ := h
  exact parse_framed r.1 r.2.1 r.2.2 h1 h3 h4 h6

theorem run_framed_recs {recs : List (Str × Str × Str)} {chunks : List Str} (hwf : ∀ r ∈ recs, WfRec r)
    (hc : chunks.flatten = (recs.map frame).flatten) : (Pipe.run '\n' none chunks).1 = recs.map frame :=
  AM.C12.run_frames (fun f hf => by obtain ⟨r, hr, rfl⟩ := List.mem_map.mp hf; exact (hwf r hr).framed) hc

theorem through_the_pipe (cfg : Sshd.Cfg) (recs : List (Str × Str × Str)) (chunks : List Str)
    (ok : Bool) (h : Sshd.Handoff) (hwf : ∀ r ∈ recs, WfRec r)
    (hc : chunks.flatten = (recs.map frame).flatten) :
    (Pipe.run '\n' none chunks).1.map (fun e => Syslog.process cfg e ok h) =
      recs.map (fun r => Sshd.process cfg r.1 r.2.2 ok h) := by
  rw [run_framed_recs hwf hc, List.map_map]
  apply List.map_congr_left
  intro r hr
  simp only [Function.comp, Syslog.process, (hwf r hr).parse]

end AM.C07
