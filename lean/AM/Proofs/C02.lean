import AM.Proofs.TrackerInv
/-! # C02 — every record of a correlated session is emitted exactly once, in order

Stated as a conservation law over ALL histories: for every session the tracker still holds, the
events already emitted for it followed by the events still cached for it are exactly the session's
records since its LOGIN record, in processing order (nothing lost, duplicated or reordered);
nothing is emitted before the login is known, nothing is held back afterwards. -/
namespace AM.C02
open AM.Tr

/-- the events emitted so far for session `s`, in emission order -/
def outOf (st : St) (s : Str) : List AEvent := (st.out.filter (fun em => em.ev.ses = s)).map (·.ev)

/-- the audit events of a history, in processing order -/
def auditsOf : List Op → List AEvent
  | [] => []
  | .audit e _ :: r => e :: auditsOf r
  | _ :: r => auditsOf r

/-- the audit events of session `s` in `h`, starting at its first LOGIN-type record (inclusive),
in order; `[]` if there is none -/
def recsFrom (h : List Op) (s : Str) : List AEvent :=
  ((auditsOf h).filter (fun e => e.ses = s)).dropWhile (fun e => decide (e.typ ≠ .login))

/-- for every session id there is at most one LOGIN-type record in the history -/
def uniqueOpener (h : List Op) : Prop :=
  ∀ s, (auditsOf h).countP (fun e => decide (e.typ = .login ∧ e.ses = s)) ≤ 1

/-- the history contains a LOGIN-type record of session `s` -/
def hasLogin (h : List Op) (s : Str) : Prop := ∃ e ∈ auditsOf h, e.typ = .login ∧ e.ses = s

theorem dropWhile_eq_nil {α} {p : α → Bool} {l : List α} (h : ∀ a ∈ l, p a = true) :
    l.dropWhile p = [] := by
  have := @List.dropWhile_append_of_pos α p l [] h
  simpa using this

theorem dropWhile_ne_nil {α} {p : α → Bool} {l : List α} {a : α} (ha : a ∈ l) (hp : p a = false) :
    l.dropWhile p ≠ [] := by
  intro h
  have hall := List.any_dropWhile (l := l) (p := p)
  simp [h] at hall
  simp [hall a ha] at hp

theorem dropWhile_snoc_of_ne_nil {α} {p : α → Bool} {l : List α} {x : α} (h : l.dropWhile p ≠ []) :
    (l ++ [x]).dropWhile p = l.dropWhile p ++ [x] := by
  rw [List.dropWhile_append]
  split
  · rename_i he
    exact absurd (List.isEmpty_iff.mp he) h
  · rfl

theorem auditsOf_eq (h : List Op) : auditsOf h = Tr.auditsOf h := by
  induction h with
  | nil => rfl
  | cons o r ih => cases o <;> simp [auditsOf, Tr.auditsOf, ih]

theorem auditsOf_append (h h' : List Op) : auditsOf (h ++ h') = auditsOf h ++ auditsOf h' := by
  simp only [auditsOf_eq, Tr.auditsOf_append]

theorem auditsOf_snoc_audit (h : List Op) (e : AEvent) (now : Time) :
    auditsOf (h ++ [.audit e now]) = auditsOf h ++ [e] := by
  rw [auditsOf_append]; rfl

theorem auditsOf_snoc_other (h : List Op) (op : Op) (hop : ∀ e now, op ≠ .audit e now) :
    auditsOf (h ++ [op]) = auditsOf h := by
  rw [auditsOf_append]
  cases op with
  | audit e now => exact absurd rfl (hop e now)
  | _ => simp [auditsOf]

theorem recsFrom_snoc_ne (h : List Op) (e : AEvent) (now : Time) (s : Str) (hne : e.ses ≠ s) :
    recsFrom (h ++ [.audit e now]) s = recsFrom h s := by
  simp [recsFrom, auditsOf_snoc_audit, List.filter_append, hne]

theorem hasLogin_mono {h : List Op} {s : Str} (op : Op) (hl : hasLogin h s) :
    hasLogin (h ++ [op]) s := by
  obtain ⟨e, he, h1⟩ := hl
  exact ⟨e, by rw [auditsOf_append]; exact List.mem_append_left _ he, h1⟩

theorem recsFrom_ne_nil {h : List Op} {s : Str} (hl : hasLogin h s) : recsFrom h s ≠ [] := by
  obtain ⟨e, he, ht, hs⟩ := hl
  refine dropWhile_ne_nil (a := e) (List.mem_filter.mpr ⟨he, by simp [hs]⟩) (by simp [ht])

theorem recsFrom_snoc_tracked (h : List Op) (e : AEvent) (now : Time) (hl : hasLogin h e.ses) :
    recsFrom (h ++ [.audit e now]) e.ses = recsFrom h e.ses ++ [e] := by
  have := recsFrom_ne_nil hl
  simp only [recsFrom] at this ⊢
  rw [auditsOf_snoc_audit, List.filter_append]
  have : List.filter (fun e' : AEvent => decide (e'.ses = e.ses)) [e] = [e] := by simp
  rw [this]
  exact dropWhile_snoc_of_ne_nil ‹_›

theorem recsFrom_snoc_open (h : List Op) (e : AEvent) (now : Time) (hl : ¬ hasLogin h e.ses)
    (ht : e.typ = .login) : recsFrom (h ++ [.audit e now]) e.ses = [e] := by
  simp only [recsFrom]
  rw [auditsOf_snoc_audit, List.filter_append]
  have : List.filter (fun e' : AEvent => decide (e'.ses = e.ses)) [e] = [e] := by simp
  rw [this, List.dropWhile_append_of_pos]
  · simp [ht]
  · intro a ha
    have ham := List.mem_filter.mp ha
    have hs : a.ses = e.ses := by simpa using ham.2
    have : a.typ ≠ .login := fun hta => hl ⟨a, ham.1, hta, hs⟩
    simpa using this

theorem uniqueOpener_prefix {h h' : List Op} (hu : uniqueOpener (h ++ h')) : uniqueOpener h := by
  intro s
  have := hu s
  rw [auditsOf_append, List.countP_append] at this
  omega

theorem uniqueOpener_fresh {h : List Op} {e : AEvent} {now : Time}
    (hu : uniqueOpener (h ++ [.audit e now])) (ht : e.typ = .login) : ¬ hasLogin h e.ses := by
  intro hl
  have := hu e.ses
  rw [auditsOf_snoc_audit, List.countP_append] at this
  have h1 : 0 < (auditsOf h).countP (fun e' => decide (e'.typ = .login ∧ e'.ses = e.ses)) := by
    rw [List.countP_pos_iff]
    obtain ⟨e', he', h1, h2⟩ := hl
    exact ⟨e', he', by simp [h1, h2]⟩
  have h2 : [e].countP (fun e' => decide (e'.typ = .login ∧ e'.ses = e.ses)) = 1 := by
    simp [ht]
  omega

theorem outOf_append_same {st st' : St} {new : List Emitted} {s : Str}
    (hout : st'.out = st.out ++ new) (hes : ∀ em ∈ new, em.ev.ses = s) :
    outOf st' s = outOf st s ++ new.map (·.ev) := by
  simp only [outOf, hout, List.filter_append, List.map_append]
  congr 2
  exact List.filter_eq_self.mpr (fun a ha => by simp [hes a ha])

theorem outOf_append_other {st st' : St} {new : List Emitted} {s s0 : Str}
    (hout : st'.out = st.out ++ new) (hes : ∀ em ∈ new, em.ev.ses = s0) (hne : s ≠ s0) :
    outOf st' s = outOf st s := by
  have : new.filter (fun em => decide (em.ev.ses = s)) = [] :=
    List.filter_eq_nil_iff.mpr (fun a ha => by simp [hes a ha, Ne.symm hne])
  simp only [outOf, hout, List.filter_append, this, List.append_nil]

theorem outOf_same (st st' : St) (s : Str) (hout : st'.out = st.out) : outOf st' s = outOf st s := by
  simp only [outOf, hout]

theorem outOf_nil_of_not_hasLogin {h : List Op} {st : St} {s : Str}
    (hopen : ∀ em ∈ st.out, hasLogin h em.ev.ses) (hl : ¬ hasLogin h s) : outOf st s = [] := by
  simp only [outOf, List.map_eq_nil_iff, List.filter_eq_nil_iff]
  intro em hem hs
  have := hopen em hem
  simp only [decide_eq_true_eq] at hs
  rw [hs] at this
  exact hl this

structure Good (h : List Op) (st : St) (s : Str) (u : User) : Prop where
  ne1 : s ≠ []
  ne2 : s ≠ strOf "unset"
  opened : hasLogin h s
  cachedSes : ∀ e ∈ u.cached, e.ses = s
  cons : outOf st s ++ u.cached = recsFrom h s
  pending : u.login = none → outOf st s = []
  flushed : u.login ≠ none → u.cached = []

structure Inv (h : List Op) (st : St) : Prop where
  nofail : st.failAt = none
  uniq : aUnique st.sessions
  outOpen : ∀ em ∈ st.out, hasLogin h em.ev.ses
  good : ∀ s u, (s, u) ∈ st.sessions → Good h st s u

theorem inv_init : Inv [] {} :=
  ⟨rfl, aUnique_nil, (fun em hem => by cases hem), (fun s u hm => by cases hm)⟩

theorem inv_same {h h' : List Op} {st st' : St} (hi : Inv h st)
    (hf : st'.failAt = none) (hout : st'.out = st.out)
    (hsub : st'.sessions.Sublist st.sessions)
    (hrec : ∀ s u, (s, u) ∈ st.sessions → recsFrom h' s = recsFrom h s)
    (hlog : ∀ s, hasLogin h s → hasLogin h' s) : Inv h' st' := by
  refine ⟨hf, List.Nodup.sublist (hsub.map _) hi.uniq, ?_, ?_⟩
  · intro em hem; rw [hout] at hem; exact hlog _ (hi.outOpen em hem)
  · intro s u hm
    have hm0 := hsub.subset hm
    have g := hi.good s u hm0
    have ho := outOf_same st st' s hout
    exact ⟨g.ne1, g.ne2, hlog _ g.opened, g.cachedSes, by rw [ho, hrec s u hm0]; exact g.cons,
      fun hn => by rw [ho]; exact g.pending hn, g.flushed⟩

theorem inv_upd {h h' : List Op} {st st' : St} (hi : Inv h st) (s0 : Str) (new : List Emitted)
    (hf : st'.failAt = none) (hout : st'.out = st.out ++ new)
    (hes : ∀ em ∈ new, em.ev.ses = s0)
    (hrec : ∀ s, s ≠ s0 → recsFrom h' s = recsFrom h s)
    (hlog : ∀ s, hasLogin h s → hasLogin h' s)
    (hs0 : hasLogin h' s0)
    (huniq : aUnique st'.sessions)
    (hmem : ∀ s u, (s, u) ∈ st'.sessions → ((s, u) ∈ st.sessions ∧ s ≠ s0) ∨
      (s = s0 ∧ s0 ≠ [] ∧ s0 ≠ strOf "unset" ∧ (∀ e ∈ u.cached, e.ses = s0) ∧
        outOf st s0 ++ new.map (·.ev) ++ u.cached = recsFrom h' s0 ∧
        (u.login = none → outOf st s0 = [] ∧ new = []) ∧ (u.login ≠ none → u.cached = []))) :
    Inv h' st' := by
  refine ⟨hf, huniq, ?_, ?_⟩
  · intro em hem
    rw [hout] at hem
    rcases List.mem_append.mp hem with hem | hem
    · exact hlog _ (hi.outOpen em hem)
    · rw [hes em hem]; exact hs0
  · intro s u hm
    rcases hmem s u hm with ⟨hm0, hne⟩ | ⟨rfl, h1, h2, h3, h4, h5, h6⟩
    · have g := hi.good s u hm0
      have ho := outOf_append_other hout hes hne
      exact ⟨g.ne1, g.ne2, hlog _ g.opened, g.cachedSes, by rw [ho, hrec s hne]; exact g.cons,
        fun hn => by rw [ho]; exact g.pending hn, g.flushed⟩
    · have ho := outOf_append_same hout hes
      refine ⟨h1, h2, hs0, h3, by rw [ho]; exact h4, ?_, h6⟩
      intro hn
      rw [ho, (h5 hn).1, (h5 hn).2]; rfl

theorem Inv.entry {h : List Op} {st : St} {e : AEvent} {now : Time} {u : User} {L : List (Int × Login)}
    (hi : Inv h st) (hu : uniqueOpener (h ++ [.audit e now])) (hE : Entry st e now u L) :
    hasLogin (h ++ [.audit e now]) e.ses ∧ (∀ e' ∈ u.cached ++ [e], e'.ses = e.ses) ∧
    outOf st e.ses ++ u.cached ++ [e] = recsFrom (h ++ [.audit e now]) e.ses ∧
    (u.login = none → outOf st e.ses = []) := by
  cases hE with
  | tracked hlook =>
    have g := hi.good _ _ (aLookup_mem hlook)
    refine ⟨hasLogin_mono _ g.opened, fun e' he' => ?_, by rw [recsFrom_snoc_tracked h e now g.opened, g.cons],
      g.pending⟩
    rcases List.mem_append.mp he' with he' | he'
    · exact g.cachedSes e' he'
    · rw [List.mem_singleton.mp he']
  | opened hlook ht hp =>
    -- the one use of `uniqueOpener`: a session id opened twice would find `outOf` holding its first life's events
    have hfresh := uniqueOpener_fresh hu ht
    have ho := outOf_nil_of_not_hasLogin hi.outOpen hfresh
    exact ⟨⟨e, by rw [auditsOf_snoc_audit]; simp, ht, rfl⟩, by simp, by rw [recsFrom_snoc_open h e now hfresh ht, ho]; rfl,
      fun _ => ho⟩

theorem Inv.step {h : List Op} {st st' : St} {op : Op} {err : Option Err} (hi : Inv h st)
    (hs : Step st op st' err) (hu : uniqueOpener (h ++ [op])) : Inv (h ++ [op]) st' := by
  have hf := hi.nofail
  have hlog : ∀ s, hasLogin h s → hasLogin (h ++ [op]) s := fun s hl => hasLogin_mono op hl
  have other : (∀ e now, op ≠ .audit e now) → ∀ s, recsFrom (h ++ [op]) s = recsFrom h s :=
    fun hop s => by simp only [recsFrom, auditsOf_snoc_other h op hop]
  have untracked : ∀ {e now}, op = .audit e now → (∀ x ∈ st.sessions, x.1 ≠ e.ses) → Inv (h ++ [op]) st := by
    rintro e now rfl hne
    exact inv_same hi hf rfl (List.Sublist.refl _) (fun s u hm => recsFrom_snoc_ne h e now s (hne (s, u) hm).symm) hlog
  cases hs with
  | skip hk =>
    cases hk with
    | badLogin => exact inv_same hi hf rfl (List.Sublist.refl _) (fun s _ _ => other (by simp) s) hlog
    | noSession hno =>
      refine untracked rfl fun x hx hc => ?_
      have g := hi.good x.1 x.2 hx
      rcases hno with h1 | h1
      · exact g.ne1 (hc ▸ h1)
      · exact g.ne2 (hc ▸ h1)
    | stray _ _ hlook => exact untracked rfl (aLookup_none hlook)
    | badPid _ _ hlook => exact untracked rfl (aLookup_none hlook)
  | park | cleanLogins => exact inv_same hi hf rfl (List.Sublist.refl _) (fun s _ _ => other (by simp) s) hlog
  | cleanSessions => exact inv_same hi hf rfl List.filter_sublist (fun s _ _ => other (by simp) s) hlog
  | @release l s u more hv hfil =>
    have g := hi.good s u (matched hfil).1
    -- `by exact`: `hf` speaks of `st`, the rule flushes `{ st with … }`; elaborated last, it is accepted for it
    refine inv_upd hi s _ hf (St.flush_out_all (by exact hf))
      (fun em hem => g.cachedSes _ (by simpa using (mem_under.mp hem).2))
      (fun s _ => other (by simp) s) hlog (hlog _ g.opened) (St.flush_uniqS hi.uniq) fun s' u' hm => ?_
    rcases St.mem_flush_ok (St.writeErr_all (by exact hf)) hm with hm | heq
    · exact Or.inl hm
    · cases heq
      exact Or.inr ⟨rfl, g.ne1, g.ne2, by simp, by rw [other (by simp)]; simpa [map_ev_under] using g.cons, by simp, by simp⟩
  | @hold e now u L h1 h2 hE hn =>
    obtain ⟨hop, hc, hcons, hpend⟩ := hi.entry hu hE
    refine inv_upd hi e.ses [] hf (by simp) (by simp) (fun s hne => recsFrom_snoc_ne h e now s (Ne.symm hne)) hlog hop
      (aUnique_store hi.uniq) fun s' u' hm => ?_
    rcases mem_aStore hm with heq | hm'
    · cases heq
      exact Or.inr ⟨rfl, h1, h2, hc, by simpa [List.append_assoc] using hcons, fun _ => ⟨hpend hn, rfl⟩,
        fun hc => absurd hn hc⟩
    · exact Or.inl hm'
  | @emit e now u L l h1 h2 hE hl =>
    obtain ⟨hop, hc, hcons, _⟩ := hi.entry hu hE
    refine inv_upd hi e.ses _ hf (St.flush_out_all (by exact hf))
      (fun em hem => hc _ (mem_under.mp hem).2)
      (fun s hne => recsFrom_snoc_ne h e now s (Ne.symm hne)) hlog hop (St.flush_uniqS hi.uniq) fun s' u' hm => ?_
    rcases St.mem_flush_ok (St.writeErr_all (by exact hf)) hm with hm | heq
    · exact Or.inl hm
    · cases heq
      exact Or.inr ⟨rfl, h1, h2, by simp, by simpa [map_ev_under, List.append_assoc] using hcons, by simp [hl], by simp⟩

theorem inv_step (h : List Op) (st : St) (op : Op) (hi : Inv h st)
    (hu : uniqueOpener (h ++ [op])) : Inv (h ++ [op]) (step st op).1 :=
  hi.step (step_spec st op) hu

theorem conservation_executed (h ops : List Op) (st : St) (hi : Inv h st) (huniq : uniqueOpener (h ++ ops)) :
    Inv (h ++ executed st ops) (run st ops).1 :=
  run_induction_under (H := uniqueOpener) (fun _ _ => uniqueOpener_prefix)
    (fun h st op hu hI => inv_step h st op hI hu) h st ops hi huniq

/-- the same from any state that satisfies the invariant, e.g. mid-run -/
theorem conservation_from (h ops : List Op) (st : St) (hi : Inv h st)
    (huniq : uniqueOpener (h ++ ops)) (hok : (run st ops).2 = none) :
    Inv (h ++ ops) (run st ops).1 := by
  simpa only [executed_of_ok st ops hok] using conservation_executed h ops st hi huniq

/-- **Conservation** (closest true version of `conservation`: the run reports no error, i.e. no
`RemoteLogin` was rejected and no LOGIN record had an unparsable PID — otherwise the processor
stops and the rest of the history is not processed at all, see `conservation_counterexample`).
For every session still tracked, what has been emitted for it followed by what is still held is
exactly the list of its records since the LOGIN record, in processing order; nothing is emitted
before the login is known; after the login nothing is held back. -/
theorem conservation_partial (h : List Op) (huniq : uniqueOpener h) (hok : (run {} h).2 = none) :
    let st := (run {} h).1
    ∀ s u, (s, u) ∈ st.sessions →
      outOf st s ++ u.cached = recsFrom h s ∧ (u.login = none → outOf st s = []) ∧
      (u.login ≠ none → u.cached = []) := by
  intro st s u hm
  have g := (conservation_from [] h {} inv_init (by simpa using huniq) hok).good s u hm
  exact ⟨by simpa using g.cons, g.pending, g.flushed⟩

/-! ### the statement without the no-error hypothesis is false -/

def cxLogin : AEvent := ⟨1, strOf "5", .login, strOf "77", strOf "success", [], [], [], []⟩
def cxOther : AEvent := ⟨2, strOf "5", .other, strOf "77", strOf "success", [], [], [], []⟩
/-- an invalid login (`Source == nil`): `RemoteLogin` returns an error and the processor stops -/
def cxBad : Login := ⟨77, strOf "alice", false, [], [], [], [], [], 0⟩
def cxHistory : List Op := [.audit cxLogin 0, .remoteLogin cxBad, .audit cxOther 2]

/- error, emitted for "5", cached for "5", records of "5" since LOGIN (by timestamp):
   `(some badLogin, [], [[1]], [1, 2])` — record 2 is in the history but was never processed -/
#eval ((run {} cxHistory).2, (outOf (run {} cxHistory).1 (strOf "5")).map (·.ts),
  (run {} cxHistory).1.sessions.map (fun p => p.2.cached.map (·.ts)),
  (recsFrom cxHistory (strOf "5")).map (·.ts))

theorem conservation_counterexample :
    uniqueOpener cxHistory ∧ (run {} cxHistory).2 = some .badLogin ∧
    ∃ s u, (s, u) ∈ (run {} cxHistory).1.sessions ∧
      outOf (run {} cxHistory).1 s ++ u.cached ≠ recsFrom cxHistory s := by
  refine ⟨?_, by decide +kernel, strOf "5", ⟨0, 77, none, [cxLogin]⟩, by decide +kernel, by decide +kernel⟩
  intro s
  simp only [cxHistory, auditsOf, List.countP_cons, List.countP_nil, cxOther]
  split
  · rename_i hc; simp at hc
  · split <;> omega

/-- When the login arrives, the cached records of the session it is matched with are emitted in
the order in which they were cached, all with that login, and nothing else is emitted. -/
theorem release_in_order (st : St) (l : Login) (s : Str) (u : User)
    (hhead : (st.sessions.filter (fun p => p.2.srcPID == l.pid)).head? = some (s, u))
    (hv : l.valid = true) (hf : st.failAt = none) :
    (step st (.remoteLogin l)).1.out = st.out ++ u.cached.map (fun e => ⟨e, l⟩) := by
  obtain ⟨more, hfil⟩ := List.head?_eq_some_iff.mp hhead
  rw [(Step.release hv hfil).eq, St.flush_out_all (by exact hf), under_eq_map, List.append_nil]

/-- The credential-disposal record of a correlated session: whatever is still cached and then the
record itself are emitted, in that order, with the session's login, and the session is closed.
(`aErase` removes every entry under the key, so `aUnique st.sessions` is not needed.) -/
theorem disposal_closes (st : St) (e : AEvent) (now : Time) (u : User) (l : Login)
    (hlook : aLookup e.ses st.sessions = some u) (hl : u.login = some l)
    (ht : e.typ = .credDisp) (h1 : e.ses ≠ []) (h2 : e.ses ≠ strOf "unset")
    (hf : st.failAt = none) :
    (step st (.audit e now)).1.out = st.out ++ (u.cached ++ [e]).map (fun x => ⟨x, l⟩) ∧
    aLookup e.ses (step st (.audit e now)).1.sessions = none := by
  rw [(Step.emit h1 h2 (.tracked hlook) hl).eq]
  exact ⟨St.flush_out_all (by exact hf), St.flush_closed (by simpa using ht)⟩

def exEv (ts : Int) (ses : String) (t : EvType) (pid : String) : AEvent :=
  ⟨ts, strOf ses, t, strOf pid, strOf "success", strOf "act", strOf "how", strOf "obj", []⟩

def exAlice : Login :=
  ⟨77, strOf "alice", true, [("userID", strOf "alice")], strOf "IP", strOf "10.0.0.1", [], [], 3⟩

/-- session 5 (PID 77): LOGIN record, two more records, then the login, one more record, the
disposal record, and a record after the end; session 6 (PID 88) opens in between and stays
pending -/
def exHistory : List Op :=
  [ .audit (exEv 1 "5" .login "77") 1,
    .audit (exEv 2 "5" .other "77") 2,
    .audit (exEv 3 "6" .login "88") 3,
    .audit (exEv 4 "5" .other "77") 4,
    .audit (exEv 5 "6" .other "88") 5,
    .remoteLogin exAlice,
    .audit (exEv 6 "5" .other "77") 6,
    .audit (exEv 7 "5" .credDisp "77") 7,
    .audit (exEv 8 "5" .other "77") 8 ]

example :
    (run {} exHistory).1.out =
      [ ⟨exEv 1 "5" .login "77", exAlice⟩, ⟨exEv 2 "5" .other "77", exAlice⟩,
        ⟨exEv 4 "5" .other "77", exAlice⟩, ⟨exEv 6 "5" .other "77", exAlice⟩,
        ⟨exEv 7 "5" .credDisp "77", exAlice⟩ ] ∧
    (run {} exHistory).2 = none ∧
    (run {} exHistory).1.sessions.map (·.1) = [strOf "6"] := by
  decide +kernel

end AM.C02
